import Whv.Model.Explorer
/-! `updateGuardianSets` is only ever fed a contiguous range that starts at or below `current+1` (`Fine.SetsOk`), and of such a range
`plan` drops exactly the known prefix (`plan_contig`): everything about the guardian-set list (C19) follows from that. The interleaving
invariant `J` is proved one goroutine at a time (`Local`), since `current` only grows. -/
namespace Whv.Explorer

/-- `sets` is the contiguous range of set indexes `a, a+1, …`. -/
def Contig : Nat → List GSet → Prop
  | _, [] => True
  | a, s :: rest => s.index = a ∧ Contig (a + 1) rest

/-- The index invariant of the property: the list is indexed by set index, `current` is its last position,
and (being `uint32` indexes) there are at most `2^32` entries; the list is not empty (the constructor
panics on an empty list). -/
structure Inv (cur : Int) (list : List GSet) : Prop where
  len : (list.length : Int) = cur + 1
  idx : Contig 0 list
  ne : list ≠ []
  bound : list.length ≤ two32

-- Named in `Fine` because the interleaving model keeps such a range in a goroutine's state; the atomic lemmas need it as well.
-- `C19.Fed` is this proposition under the statement's name (definitionally equal: pass one for the other).
namespace Fine

/-- A fetched range is one `updateGuardianSets` may be fed with, and stays so while `current` grows. -/
def SetsOk (cur : Int) (sets : List GSet) : Prop :=
  ∃ a : Nat, Contig a sets ∧ (a : Int) ≤ cur + 1 ∧ ∀ x ∈ sets, x.index < two32

theorem setsOk_mono {cur cur' : Int} {sets : List GSet} (h : SetsOk cur sets) (hle : cur ≤ cur') : SetsOk cur' sets := by
  obtain ⟨a, h1, h2, h3⟩ := h
  exact ⟨a, h1, Int.le_trans h2 (Int.add_le_add_right hle 1), h3⟩

end Fine
open Fine (SetsOk)

theorem contig_get {a : Nat} {l : List GSet} (h : Contig a l) (i : Nat) (hi : i < l.length) : l[i].index = a + i := by
  induction l generalizing a i with
  | nil => cases hi
  | cons s rest ih =>
    cases i with
    | zero => exact h.1
    | succ i =>
      rw [List.getElem_cons_succ, ih h.2 i (Nat.lt_of_succ_lt_succ hi)]
      omega

theorem contig_of_get {a : Nat} {l : List GSet} (h : ∀ i (hi : i < l.length), l[i].index = a + i) : Contig a l := by
  induction l generalizing a with
  | nil => trivial
  | cons s rest ih =>
    refine ⟨h 0 (Nat.zero_lt_succ _), ih fun i hi => ?_⟩
    rw [Nat.add_right_comm, Nat.add_assoc]
    exact h (i + 1) (Nat.succ_lt_succ hi)

theorem contig_append {a : Nat} {l r : List GSet} (hl : Contig a l) (hr : Contig (a + l.length) r) : Contig a (l ++ r) := by
  induction l generalizing a with
  | nil => exact hr
  | cons s rest ih =>
    refine ⟨hl.1, ih hl.2 ?_⟩
    rwa [Nat.add_assoc, Nat.add_comm 1]

theorem contig_drop {a : Nat} {l : List GSet} (h : Contig a l) (k : Nat) : Contig (a + k) (l.drop k) := by
  induction k generalizing a l with
  | zero => exact h
  | succ k ih =>
    cases l with
    | nil => trivial
    | cons s rest =>
      have := ih h.2
      rwa [Nat.add_assoc, Nat.add_comm 1] at this

theorem contig_getLast {a : Nat} {l : List GSet} (h : Contig a l) {last : GSet} (hl : l.getLast? = some last) :
    last.index + 1 = a + l.length := by
  rw [List.getLast?_eq_getElem?] at hl
  obtain ⟨hi, rfl⟩ := List.getElem?_eq_some_iff.mp hl
  have := contig_get h _ hi
  omega

theorem contig_add_length_le_of_index_lt {a b : Nat} {l : List GSet} (h : Contig a l) (hb : ∀ x ∈ l, x.index < b) (hne : l ≠ []) :
    a + l.length ≤ b := by
  have hl := List.getLast?_eq_some_getLast hne
  rw [← contig_getLast h hl]
  exact hb _ (List.mem_of_getLast? hl)

theorem contig_index_lt_of_add_length_le {a : Nat} {l : List GSet} (h : Contig a l) {b : Nat} (hb : a + l.length ≤ b) : ∀ x ∈ l, x.index < b := by
  intro x hx
  obtain ⟨i, hi, rfl⟩ := List.getElem_of_mem hx
  have := contig_get h i hi
  omega

theorem findFirst_contig {a : Nat} {l : List GSet} (h : Contig a l) (k : Nat) (hk : k < l.length) :
    findFirst (a + k) l = some k := by
  induction l generalizing a k with
  | nil => cases hk
  | cons s rest ih =>
    unfold findFirst
    cases k with
    | zero => exact if_pos h.1
    | succ k =>
      rw [if_neg (by have := h.1; omega), ← Nat.add_assoc, Nat.add_right_comm, ih h.2 k (Nat.lt_of_succ_lt_succ hk)]
      rfl

theorem fetchLoop_spec {chain : Chain} {n i : Nat} {sets : List GSet} (h : fetchLoop chain n i = some sets) :
    Contig i sets ∧ sets.length = n ∧ ∀ x ∈ sets, chain x.index = some x.keys := by
  induction n generalizing i sets with
  | zero => cases h; exact ⟨trivial, rfl, nofun⟩
  | succ n ih =>
    unfold fetchLoop at h
    split at h
    · cases h
    next keys hc =>
      split at h
      · cases h
      next rest hr =>
        cases h
        obtain ⟨h1, h2, h3⟩ := ih hr
        exact ⟨⟨rfl, h1⟩, congrArg (· + 1) h2, List.forall_mem_cons.2 ⟨hc, h3⟩⟩

theorem u32_of_nonneg {x : Int} (h0 : 0 ≤ x) (h1 : x < (two32 : Int)) : (u32 x : Int) = x := by
  unfold u32
  rw [Int.emod_eq_of_lt h0 h1]
  exact Int.toNat_of_nonneg h0

theorem u32_neg_one : u32 (-1) = two32 - 1 := by decide

theorem u32_lt (x : Int) : u32 x < two32 :=
  (Int.toNat_lt' (by decide)).mpr (Int.emod_lt_of_pos x (by decide))

theorem u32_le {x : Int} (h0 : 0 ≤ x) : (u32 x : Int) ≤ x := by
  by_cases h : x < (two32 : Int)
  · exact Int.le_of_eq (u32_of_nonneg h0 h)
  · exact Int.le_trans (Int.le_of_lt (Int.ofNat_lt.mpr (u32_lt x))) (Int.not_lt.mp h)

theorem Inv.cur_nonneg {cur : Int} {list : List GSet} (h : Inv cur list) : 0 ≤ cur :=
  Int.le_of_lt_add_one (h.len ▸ Int.natCast_pos.mpr (List.length_pos_iff.mpr h.ne))

/-- Under the invariant `current` is a `uint32`: the conversion in `updateGuardianSets` does not change it. -/
theorem Inv.u32_cur {cur : Int} {list : List GSet} (h : Inv cur list) : (u32 cur : Int) = cur ∧ u32 cur + 1 = list.length := by
  have hlt : cur < (two32 : Int) := Int.lt_of_lt_of_le (Int.lt_succ cur) (h.len ▸ Int.ofNat_le.mpr h.bound)
  have hu := u32_of_nonneg h.cur_nonneg hlt
  exact ⟨hu, Int.ofNat_inj.mp (by rw [Int.natCast_add, hu, h.len]; rfl)⟩

/-- What `plan` computes for a contiguous batch whose first `k` sets have indexes up to `uint32(current)`: nothing if that is
the whole batch, else the rest of it. -/
theorem plan_contig {cur : Int} {sets : List GSet} {a k : Nat} (hc : Contig a sets) (hk : a + k = u32 cur + 1)
    (hb : ∀ x ∈ sets, x.index < two32) :
    plan cur sets = if sets.length ≤ k then none else some (((u32 cur + (sets.length - k) : Nat) : Int), sets.drop k) := by
  unfold plan
  split
  next hl =>      -- the batch is empty
    rw [List.getLast?_eq_none_iff.mp hl]
    exact (if_pos (Nat.zero_le k)).symm
  next last hl =>
    have hlast := contig_getLast hc hl
    have hlb := hb last (List.mem_of_getLast? hl)
    by_cases h : last.index ≤ u32 cur
    · rw [if_pos h, if_pos (by omega)]
    · -- position `k` of the batch holds index `uint32(current) + 1`, which has not wrapped
      obtain ⟨h1, h2, h3⟩ : k < sets.length ∧ u32 cur + 1 < two32 ∧ last.index = u32 cur + (sets.length - k) := by omega
      rw [if_neg h, if_neg (Nat.not_le.mpr h1), startIndex, Nat.mod_eq_of_lt h2, ← hk, findFirst_contig hc k h1, h3]
      rfl

/-- The heart of `c19_index_invariant`: a contiguous range starting at or below `current+1` either changes
nothing or extends the list to a longer one that still satisfies the invariant. -/
theorem plan_inv {cur : Int} {list sets : List GSet} (hinv : Inv cur list) (hfed : SetsOk cur sets) {nc : Int}
    {tail : List GSet} (hp : plan cur sets = some (nc, tail)) :
    Inv nc (list ++ tail) ∧ cur < nc ∧ ∃ k, tail = sets.drop k := by
  obtain ⟨a, hc, ha, hb⟩ := hfed
  obtain ⟨hcur, hn⟩ := hinv.u32_cur
  obtain ⟨k, hk⟩ : ∃ k, list.length = a + k := Nat.exists_eq_add_of_le (Int.ofNat_le.mp (hinv.len ▸ ha))
  rw [plan_contig hc (hk.symm.trans hn.symm) hb] at hp
  split at hp
  · cases hp
  next hlt =>
    cases hp
    have hlt := Nat.lt_of_not_le hlt
    have hd := contig_drop hc k
    rw [← hk, ← Nat.zero_add list.length] at hd      -- `contig_append` wants the start as `0 + list.length`
    have hl' : (list ++ sets.drop k).length = u32 cur + (sets.length - k) + 1 := by
      rw [List.length_append, List.length_drop, ← hn, Nat.add_right_comm]
    have hbd := contig_add_length_le_of_index_lt hc hb (List.ne_nil_of_length_pos (Nat.zero_lt_of_lt hlt))
    refine ⟨⟨by rw [hl']; rfl, contig_append hinv.idx hd, List.append_ne_nil_of_left_ne_nil hinv.ne _, ?_⟩, ?_, k, rfl⟩
    · rw [hl']      -- at most `2^32` entries: `hbd`, where `a + k = list.length = u32 cur + 1`
      omega
    · calc cur = (u32 cur : Int) := hcur.symm
        _ < _ := Int.ofNat_lt.mpr (Nat.lt_add_of_pos_right (Nat.sub_pos_of_lt hlt))

theorem Inv.getElem?_of_le {cur : Int} {list : List GSet} (hinv : Inv cur list) {i : Nat} (h : (i : Int) ≤ cur) :
    ∃ x, list[i]? = some x ∧ x.index = i := by
  have hi : i < list.length := Int.ofNat_lt.mp (hinv.len ▸ Int.lt_add_one_of_le h)
  exact ⟨list[i], List.getElem?_eq_getElem hi, (contig_get hinv.idx i hi).trans (Nat.zero_add i)⟩

theorem Inv.listAt_of_le {cur : Int} {list : List GSet} (hinv : Inv cur list) {i : Int} (h0 : 0 ≤ i) (h1 : i ≤ cur) :
    ∃ s, listAt list i = some s ∧ (s.index : Int) = i := by
  obtain ⟨n, rfl⟩ := Int.eq_ofNat_of_zero_le h0
  obtain ⟨s, hs, hi⟩ := hinv.getElem?_of_le h1
  exact ⟨s, by rw [listAt, if_neg (Int.not_lt.mpr h0)]; exact hs, congrArg _ hi⟩

theorem update_inv {g : GS} {sets : List GSet} (hinv : Inv g.cur g.list) (hfed : SetsOk g.cur sets) :
    Inv (update g sets).1.cur (update g sets).1.list ∧ (update g sets).2 = .nil ∧
    ∃ k, (update g sets).1.list = g.list ++ sets.drop k := by
  unfold update
  split
  · exact ⟨hinv, rfl, sets.length, by rw [List.drop_length, List.append_nil]⟩
  next nc tail hp =>
    obtain ⟨h, _, k, rfl⟩ := plan_inv hinv hfed hp
    exact ⟨h, if_neg (not_not_intro h.len), k, rfl⟩

/-- A range `[uint32(cur0+1) .. hi]` fetched with `cur0` read at or before the present state can be fed to `updateGuardianSets`. -/
theorem setsOk_of_range {cur0 cur : Int} {hi : Nat} {sets : List GSet} (h0 : 0 ≤ cur0 + 1) (hle : cur0 ≤ cur) (hhi : hi < two32)
    (hc : Contig (u32 (cur0 + 1)) sets) (hl : sets.length = hi + 1 - u32 (cur0 + 1)) : SetsOk cur sets := by
  have hlo := u32_lt (cur0 + 1)
  exact ⟨_, hc, Int.le_trans (u32_le h0) (Int.add_le_add_right hle 1), contig_index_lt_of_add_length_le hc (by omega)⟩

theorem get_fast {g : GS} {index : Int} {dial : Bool} {chain : Chain} {s : GSet}
    (hle : index ≤ g.cur) (hat : listAt g.list index = some s) :
    getGuardianSet g index dial chain = ⟨g, .ok s, [], none⟩ := by
  rw [getGuardianSet, if_pos hle, hat]

theorem getStale_failed (g : GS) {cur0 index : Int} {dial : Bool} {chain : Chain} (hgt : ¬ index ≤ cur0)
    (hfail : dial = false ∨ fetchRange chain (u32 (cur0 + 1)) (u32 index) = none) :
    ∃ a, getGuardianSetStale g cur0 index dial chain = ⟨g, .err, [], a⟩ := by
  rw [getGuardianSetStale, if_neg hgt]
  cases dial with
  | false => exact ⟨_, rfl⟩
  | true =>
    simp only [hfail.resolve_left nofun]      -- (`simp only` because the range stands behind the `let`s)
    exact ⟨_, rfl⟩

/-- The lookup `GetGuardianSet(i)`, overtaken or not (`cur0 = g.cur`), in a state satisfying the invariant: it never panics, keeps
the invariant whatever the chain answers, returns the set with index `i` from position `i`, and appends only sets that are the
chain's answers for their own indexes. (`o` names the result so that the term is written once; the C19 statements have this shape.) -/
theorem getStale_spec {g : GS} {cur0 index : Int} {dial : Bool} {chain : Chain}
    (hinv : Inv g.cur g.list) (hc0 : 0 ≤ cur0) (hle0 : cur0 ≤ g.cur) (h0 : 0 ≤ index)
    {o : GetOut} (ho : o = getGuardianSetStale g cur0 index dial chain) :
    Inv o.st.cur o.st.list ∧ o.res ≠ .panic ∧
    (∀ s, o.res = .ok s → (s.index : Int) = index ∧ listAt o.st.list index = some s ∧ index ≤ o.st.cur) ∧
    ∃ tail, o.st.list = g.list ++ tail ∧ ∀ x ∈ tail, chain x.index = some x.keys := by
  by_cases hle : index ≤ cur0
  · have hle' := Int.le_trans hle hle0
    obtain ⟨s, hs, hi⟩ := hinv.listAt_of_le h0 hle'
    rw [getGuardianSetStale, if_pos hle, get_fast hle' hs] at ho
    subst ho
    exact ⟨hinv, nofun, fun s' e => by cases e; exact ⟨hi, hs, hle'⟩, [], (List.append_nil _).symm, nofun⟩
  by_cases hfail : dial = false ∨ fetchRange chain (u32 (cur0 + 1)) (u32 index) = none
  · obtain ⟨a, e⟩ := getStale_failed g hle hfail
    rw [e] at ho
    subst ho
    exact ⟨hinv, nofun, nofun, [], (List.append_nil _).symm, nofun⟩
  obtain ⟨hd, hf⟩ := not_or.mp hfail
  obtain ⟨sets, hf⟩ := Option.ne_none_iff_exists'.mp hf
  obtain rfl : dial = true := Bool.not_eq_false _ ▸ hd
  obtain ⟨hc, hl, hch⟩ := fetchLoop_spec hf
  obtain ⟨hinv', -, k, hk⟩ := update_inv hinv (setsOk_of_range (Int.le_trans hc0 (Int.le_add_one (Int.le_refl _))) hle0 (u32_lt index) hc hl)
  have htail : ∃ tail, (update g sets).1.list = g.list ++ tail ∧ ∀ x ∈ tail, chain x.index = some x.keys :=
    ⟨_, hk, fun x hx => hch x (List.mem_of_mem_drop hx)⟩
  obtain ⟨c, hcur, -⟩ := hinv'.listAt_of_le hinv'.cur_nonneg (Int.le_refl _)
  rw [getGuardianSetStale, if_neg hle] at ho
  simp only [Bool.not_true, Bool.false_eq_true, if_false, hf, hcur] at ho
  split at ho
  · -- `index` is still beyond `current` after the update: an error
    subst ho
    exact ⟨hinv', nofun, nofun, htail⟩
  next hgt =>
    obtain ⟨s, hs, hi⟩ := hinv'.listAt_of_le h0 (Int.not_lt.mp hgt)
    rw [hs] at ho
    subst ho
    exact ⟨hinv', nofun, fun s' e => by cases e; exact ⟨hi, hs, Int.not_lt.mp hgt⟩, htail⟩

theorem pushStale_st (g : GS) (cur0 : Int) (v : Vaa) (recover : Bytes → Option Addr) (dial : Bool) (chain : Chain) (hit room : Bool) :
    (pushStale g cur0 v recover dial chain hit room).st = (getGuardianSetStale g cur0 (v.gsIndex : Int) dial chain).st := by
  unfold pushStale
  generalize getGuardianSetStale g cur0 (v.gsIndex : Int) dial chain = o
  dsimp only
  cases o.res with
  | err => rfl
  | panic => rfl
  | ok s =>
    dsimp only
    cases verifyVAA recover v s.keys with
    | some e => rfl
    | none => rfl

/-- `enq = true ∨ res = .full`: the `Push` got as far as the hand-off to the queue. -/
theorem pushStale_passed {g : GS} {cur0 : Int} {v : Vaa} {recover : Bytes → Option Addr} {dial : Bool} {chain : Chain} {hit room : Bool}
    (h : (pushStale g cur0 v recover dial chain hit room).enq = true ∨ (pushStale g cur0 v recover dial chain hit room).res = .full) :
    ∃ s, (getGuardianSetStale g cur0 (v.gsIndex : Int) dial chain).res = .ok s ∧ verifyVAA recover v s.keys = none := by
  unfold pushStale at h
  generalize getGuardianSetStale g cur0 (v.gsIndex : Int) dial chain = o at h ⊢
  dsimp only at h
  split at h
  · simp at h        -- the lookup returned an error
  · simp at h        -- the lookup panicked
  next s hs =>
    split at h
    · simp at h      -- `verifyVAA` rejected the VAA
    next hv => exact ⟨s, hs, hv⟩

end Whv.Explorer

namespace Whv.Explorer.Fine
open Whv.Explorer

theorem upd_same (f : Nat → Thread) (k : Nat) (t : Thread) : upd f k t k = t := if_pos rfl
theorem upd_other {f : Nat → Thread} {k j : Nat} {t : Thread} (h : j ≠ k) : upd f k t j = f j := if_neg h

theorem fetchAll_contig (chain : Nat → Option (List Addr)) (n i : Nat) :
    Contig i (fetchAll chain n i) ∧ (fetchAll chain n i).length = n := by
  induction n generalizing i with
  | zero => exact ⟨trivial, rfl⟩
  | succ n ih => exact ⟨⟨rfl, (ih (i + 1)).1⟩, congrArg (· + 1) (ih (i + 1)).2⟩

/-- Program counters inside a section that holds `gs.lock` (in the repaired code). -/
def Crit : Pc → Prop
  | .locked _ | .mid _ _ | .unlocking | .reading _ => True
  | _ => False

/-- What is known about the two fields while the lock is held by a goroutine at `pc`: between the two
writes of an update the invariant is the one the *second* write will establish. -/
def HeldOk (cfg : Cfg) (cur : Int) (list : List GSet) : Pc → Prop
  | .mid nc tail => if cfg.indexFirst then cur = nc ∧ Inv nc (list ++ tail) else cur < nc ∧ Inv nc list
  | _ => Inv cur list

/-- The arguments are `uint32`s, so the range `[current+1 .. b]` a refresh fetches does not wrap (`setsOk_of_range`). -/
def OpBound : Op → Prop
  | .get i => i < two32
  | .refresh b => b < two32

/-- A finished lookup either missed (index beyond `current`) or returned the set with the index asked for. -/
def GoodRes (i : Nat) : Res → Prop
  | .ok x => x.index = i
  | .miss => True
  | .unit => True
  | .panic => False

/-- The invariant of the repaired code over all goroutines. `owner`: the goroutines inside a critical section are exactly the lock
owner (so at most one). `free` / `held`: what the two shared fields satisfy while the lock is free / held by a goroutine at its `pc`.
`setsF` / `setsL`: a range fetched earlier can still be fed to the update. `reading`: a lookup that read `current` has an index within
it. `res`: finished lookups are good. `bound`: arguments are `uint32`s. -/
structure J (cfg : Cfg) (s : Sys) : Prop where
  owner : ∀ k, Crit (s.threads k).pc ↔ s.lock = some k
  free : s.lock = none → Inv s.cur s.list
  held : ∀ k, s.lock = some k → HeldOk cfg s.cur s.list (s.threads k).pc
  setsF : ∀ k sets, (s.threads k).pc = .fetched sets → SetsOk s.cur sets
  setsL : ∀ k sets, (s.threads k).pc = .locked sets → SetsOk s.cur sets
  reading : ∀ k c, (s.threads k).pc = .reading c → ∃ i, (s.threads k).op = .get i ∧ (i : Int) ≤ s.cur
  res : ∀ k i r, (s.threads k).op = .get i → (s.threads k).pc = .done r → GoodRes i r
  bound : ∀ k, OpBound (s.threads k).op

/-- The clauses of `J` about one goroutine taken by itself: what it knows at `pc` besides what the lock guarantees. None of them
is disturbed by another goroutine's step, since `current` only grows. -/
def Local (cur : Int) (t : Thread) : Prop :=
  OpBound t.op ∧ match t.pc with
  | .fetched sets | .locked sets => SetsOk cur sets
  | .reading _ => ∃ i, t.op = .get i ∧ (i : Int) ≤ cur
  | .done r => ∀ i, t.op = .get i → GoodRes i r
  | _ => True

theorem Local.mono {cur cur' : Int} {t : Thread} (h : Local cur t) (hle : cur ≤ cur') : Local cur' t := by
  refine ⟨h.1, ?_⟩
  have h := h.2
  split at h
  next sets _ => exact setsOk_mono h hle                                   -- fetched
  next sets _ => exact setsOk_mono h hle                                   -- locked
  next c _ => exact h.imp fun i hi => ⟨hi.1, Int.le_trans hi.2 hle⟩        -- reading
  next r _ => exact h                                                      -- done
  · trivial

theorem J.thread {cfg : Cfg} {s : Sys} (hJ : J cfg s) (k : Nat) :
    (Crit (s.threads k).pc ↔ s.lock = some k) ∧ (s.lock = some k → HeldOk cfg s.cur s.list (s.threads k).pc) ∧
    Local s.cur (s.threads k) := by
  refine ⟨hJ.owner k, hJ.held k, hJ.bound k, ?_⟩
  split
  next sets h => exact hJ.setsF k sets h
  next sets h => exact hJ.setsL k sets h
  next c h => exact hJ.reading k c h
  next r h => exact fun i hi => hJ.res k i r hi h
  · trivial

theorem J.of_threads {cfg : Cfg} {cur : Int} {list : List GSet} {lock : Option Nat} {threads : Nat → Thread}
    (free : lock = none → Inv cur list)
    (h : ∀ k, (Crit (threads k).pc ↔ lock = some k) ∧ (lock = some k → HeldOk cfg cur list (threads k).pc) ∧
      Local cur (threads k)) : J cfg ⟨cur, list, lock, threads⟩ where
  owner := fun k => (h k).1
  free := free
  held := fun k => (h k).2.1
  -- `(h k).2.2.2` is the `match` of `Local` on goroutine `k`'s program counter, which `e` gives
  setsF := fun k sets e => by have := (h k).2.2.2; rwa [e] at this
  setsL := fun k sets e => by have := (h k).2.2.2; rwa [e] at this
  reading := fun k c e => by have := (h k).2.2.2; rwa [e] at this
  res := fun k i r ho e => by have := (h k).2.2.2; rw [e] at this; exact this i ho
  bound := fun k => (h k).2.2.1

theorem J.holder {cfg : Cfg} {s : Sys} (hJ : J cfg s) {k : Nat} {pc : Pc} (hpc : (s.threads k).pc = pc) (hc : Crit pc) :
    s.lock = some k ∧ HeldOk cfg s.cur s.list pc :=
  have hl := (hJ.owner k).1 (hpc ▸ hc)
  ⟨hl, hpc ▸ hJ.held k hl⟩

/-- Goroutine `k`, which holds the lock or finds it free, moves to `pc'`, possibly writing the shared fields and taking or
releasing the lock: every other goroutine is outside the critical sections, so only `k`'s own clauses have to be shown. -/
theorem J_upd {cfg : Cfg} {s : Sys} (hJ : J cfg s) {k : Nat} {op' : Op} {pc' : Pc} {cur' : Int} {list' : List GSet}
    {lock' : Option Nat} (hk : s.lock = none ∨ s.lock = some k) (hmono : s.cur ≤ cur')
    (hlock : lock' = none ∧ ¬ Crit pc' ∨ lock' = some k ∧ Crit pc') (hheld : HeldOk cfg cur' list' pc')
    (hloc : Local cur' ⟨op', pc'⟩) : J cfg ⟨cur', list', lock', upd s.threads k ⟨op', pc'⟩⟩ := by
  refine .of_threads (fun e => ?_) fun j => ?_
  · rcases hlock with ⟨_, h⟩ | ⟨e', _⟩
    · -- outside the critical sections `HeldOk` is the invariant itself
      cases pc' with
      | idle | fetched _ | done _ => exact hheld
      | locked _ | mid _ _ | unlocking | reading _ => exact absurd trivial h
    · rw [e'] at e; cases e
  by_cases hj : j = k
  · rw [hj, upd_same]
    refine ⟨?_, fun _ => hheld, hloc⟩
    rcases hlock with ⟨e, h⟩ | ⟨e, h⟩ <;> rw [e]
    · exact ⟨fun hc => absurd hc h, nofun⟩
    · exact ⟨fun _ => rfl, fun _ => h⟩
  · rw [upd_other hj]
    -- `j` owns the lock neither before nor after, it being free or `k`'s: `none = some j` is absurd, `some k = some j` makes `j = k`
    have hnc : ¬ Crit (s.threads j).pc := fun hc => by
      have := (hJ.owner j).1 hc
      rcases hk with h | h <;> rw [h] at this <;> cases this
      exact hj rfl
    have hnl : lock' ≠ some j := fun h => by
      rcases hlock with ⟨e, _⟩ | ⟨e, _⟩ <;> rw [e] at h <;> cases h
      exact hj rfl
    exact ⟨⟨fun h => absurd h hnc, fun h => absurd h hnl⟩, fun h => absurd h hnl, (hJ.thread j).2.2.mono hmono⟩

/-- Goroutine `k` moves between two program counters outside the critical sections without touching the shared fields, whoever
holds the lock. -/
theorem J_local {cfg : Cfg} {s : Sys} (hJ : J cfg s) {k : Nat} {op' : Op} {pc' : Pc} (hnc : ¬ Crit (s.threads k).pc)
    (hnc' : ¬ Crit pc') (hloc : Local s.cur ⟨op', pc'⟩) : J cfg { s with threads := upd s.threads k ⟨op', pc'⟩ } := by
  refine .of_threads hJ.free fun j => ?_
  by_cases hj : j = k
  · have hlk : s.lock ≠ some k := fun h => hnc ((hJ.owner k).2 h)
    rw [hj, upd_same]
    exact ⟨⟨fun h => absurd h hnc', fun h => absurd h hlk⟩, fun h => absurd h hlk, hloc⟩
  · rw [upd_other hj]
    exact hJ.thread j

/-- **Every step of the repaired code preserves the global invariant** (either write order). -/
theorem step_preserves {cfg : Cfg} {chain : Nat → Option (List Addr)} {s s' : Sys} {k : Nat}
    (hlr : cfg.lockedReads = true) (hJ : J cfg s) (hs : step cfg chain s k = some s') : J cfg s' := by
  have hb := hJ.bound k
  unfold step at hs
  cases hpc : (s.threads k).pc with
  | idle =>
    have hnc : ¬ Crit (s.threads k).pc := by rw [hpc]; exact id
    cases hl : s.lock with
    | some o => cases hop : (s.threads k).op <;> simp [hpc, hop, hlr, hl] at hs      -- no step while the lock is held
    | none =>
      have hinv := hJ.free hl
      cases hop : (s.threads k).op with
      | refresh b =>
        simp only [hpc, hop, hl, Option.isSome_none, Bool.and_false, Bool.false_eq_true, if_false, Option.some.injEq] at hs
        subst hs
        rw [hop] at hb
        obtain ⟨hc, hn⟩ := fetchAll_contig chain (b + 1 - u32 (s.cur + 1)) (u32 (s.cur + 1))
        -- (`hl ▸`: the `simp` above has written `none` for `s.lock` in `s'`)
        exact hl ▸ J_local hJ hnc id ⟨hb, setsOk_of_range (hinv.len ▸ Int.natCast_nonneg _) (Int.le_refl _) hb hc hn⟩
      | get i =>
        simp only [hpc, hop, hlr, hl, if_true, Option.isSome_none, Bool.false_eq_true, if_false] at hs
        split at hs <;> cases hs
        next hle =>      -- `i ≤ current`: the lookup takes the lock
          exact J_upd hJ (.inl hl) (Int.le_refl _) (.inr ⟨rfl, trivial⟩) hinv ⟨hop ▸ hb, i, rfl, hle⟩
        · -- a miss
          exact hl ▸ J_local hJ hnc id ⟨hop ▸ hb, fun _ _ => trivial⟩
  | fetched sets =>
    have hnc : ¬ Crit (s.threads k).pc := by rw [hpc]; exact id
    simp only [hpc] at hs
    split at hs
    · cases hs      -- an empty range: done without locking
      exact J_local hJ hnc id ⟨hb, fun _ _ => trivial⟩
    split at hs <;> cases hs      -- (no step while the lock is held)
    next hl =>
      have hl : s.lock = none := by simpa using hl
      exact J_upd hJ (.inl hl) (Int.le_refl _) (.inr ⟨rfl, trivial⟩) (hJ.free hl) ⟨hb, hJ.setsF k sets hpc⟩
  | locked sets =>
    obtain ⟨hl, hinv⟩ := hJ.holder hpc trivial
    simp only [hpc] at hs
    split at hs
    · cases hs      -- `plan` writes nothing
      exact J_upd hJ (.inr hl) (Int.le_refl _) (.inr ⟨hl, trivial⟩) hinv ⟨hb, trivial⟩
    next nc tail hp =>
      obtain ⟨hinv', hlt, -⟩ := plan_inv hinv (hJ.setsL k sets hpc) hp
      split at hs <;> cases hs
      next hif =>
        exact J_upd hJ (.inr hl) (Int.le_of_lt hlt) (.inr ⟨hl, trivial⟩) (by rw [HeldOk, if_pos hif]; exact ⟨rfl, hinv'⟩) ⟨hb, trivial⟩
      next hif =>
        exact J_upd hJ (.inr hl) (Int.le_refl _) (.inr ⟨hl, trivial⟩) (by rw [HeldOk, if_neg hif]; exact ⟨hlt, hinv'⟩) ⟨hb, trivial⟩
  | mid nc tail =>
    obtain ⟨hl, hh⟩ := hJ.holder hpc trivial
    rw [HeldOk] at hh
    simp only [hpc] at hs
    split at hs <;> cases hs
    next hif =>
      rw [if_pos hif] at hh
      exact J_upd hJ (.inr hl) (Int.le_refl _) (.inr ⟨hl, trivial⟩) (hh.1 ▸ hh.2) ⟨hb, trivial⟩
    next hif =>
      rw [if_neg hif] at hh
      exact J_upd hJ (.inr hl) (Int.le_of_lt hh.1) (.inr ⟨hl, trivial⟩) hh.2 ⟨hb, trivial⟩
  | unlocking =>
    obtain ⟨hl, hinv⟩ := hJ.holder hpc trivial
    simp only [hpc, Option.some.injEq] at hs
    subst hs
    exact J_upd hJ (.inr hl) (Int.le_refl _) (.inl ⟨rfl, id⟩) hinv ⟨hb, fun _ _ => trivial⟩
  | reading c =>
    obtain ⟨hl, hinv⟩ := hJ.holder hpc trivial
    obtain ⟨i, hop, hle⟩ := hJ.reading k c hpc
    obtain ⟨x, hx, hxi⟩ := hinv.getElem?_of_le hle
    simp only [hpc, hop, hlr, if_true, hx, Option.some.injEq] at hs
    subst hs
    exact J_upd hJ (.inr hl) (Int.le_refl _) (.inl ⟨rfl, id⟩) hinv ⟨hop ▸ hb, fun i' e => by cases e; exact hxi⟩
  | done r => simp [hpc] at hs

theorem run_preserves {cfg : Cfg} (chain : Nat → Option (List Addr)) (hlr : cfg.lockedReads = true) :
    ∀ (sched : List Nat) (s : Sys), J cfg s → J cfg (run cfg chain s sched) := by
  intro sched
  induction sched with
  | nil => intro s h; exact h
  | cons k ks ih =>
    intro s h
    unfold run
    cases hs : step cfg chain s k with
    | none => exact ih s h
    | some s' => exact ih s' (step_preserves hlr h hs)

end Whv.Explorer.Fine
