import Whv.Model.Contract
import Whv.Lemmas.Basic
/-!
The contracts' signature loops: the Solidity loop is the Ralph loop, and both accept exactly the lists that are positionally valid
with strictly ascending indices.
-/
namespace Whv.Contract
open Whv

variable {quorumF : Nat → Nat} {recover : Bytes → Option Addr} {keys : List Addr}

theorem ralSigLoop_cons (s : Sig) (rest : List Sig) (last : Int) :
    ralSigLoop recover keys (s :: rest) last = true ↔
      last < (s.idx : Int) ∧ (s.idx < keys.length ∧ recover s.sig = keys[s.idx]?) ∧
        ralSigLoop recover keys rest s.idx = true := by
  rw [ralSigLoop, Bool.ite_then_false, Decidable.not_not]
  refine and_congr_right fun _ => ?_
  cases h : keys[s.idx]? with
  -- no key at that index: the loop returns `false`, and `s.idx < keys.length` fails
  | none => simpa using fun hlt => absurd hlt (Nat.not_lt.2 (List.getElem?_eq_none_iff.1 h))
  -- the index is in range, and the `if` is the rest of the right-hand side
  | some k => simp [(List.getElem?_eq_some_iff.1 h).1]

theorem ralSigLoop_iff (sigs : List Sig) (last : Int) :
    ralSigLoop recover keys sigs last = true ↔
      (∀ s ∈ sigs, (s.idx < keys.length ∧ recover s.sig = keys[s.idx]?) ∧ last < (s.idx : Int)) ∧
        sigs.Pairwise (fun a b => a.idx < b.idx) := by
  induction sigs generalizing last with
  | nil => simp [ralSigLoop]
  | cons s rest ih =>
    rw [ralSigLoop_cons, ih, List.forall_mem_cons, List.pairwise_cons]
    constructor
    · rintro ⟨hl, hs, hrest, p2⟩
      exact ⟨⟨⟨hs, hl⟩, fun t ht => ⟨(hrest t ht).1, Int.lt_trans hl (hrest t ht).2⟩⟩,
        fun t ht => Int.ofNat_lt.1 (hrest t ht).2, p2⟩
    · rintro ⟨⟨⟨hs, hl⟩, hrest⟩, h2, p2⟩
      exact ⟨hl, hs, fun t ht => ⟨(hrest t ht).1, Int.ofNat_lt.2 (h2 t ht)⟩, p2⟩

/-- The Solidity loop is the Ralph loop: `first` stands for a last index of −1. -/
theorem solSigLoop_eq (sigs : List Sig) (first : Bool) (last : Nat) :
    solSigLoop recover keys sigs first last = ralSigLoop recover keys sigs (if first then -1 else last) := by
  induction sigs generalizing first last with
  | nil => rfl
  | cons s rest ih =>
    rw [solSigLoop, ralSigLoop, ih]
    have : (first = true ∨ s.idx > last) ↔ (s.idx : Int) > (if first = true then -1 else (last : Int)) := by
      cases first <;> simp <;> omega
    -- the guards agree by `this`; the recursive call has `first = false`, so its last index is `s.idx` on both sides
    simp only [this, Bool.false_eq_true, if_false]

theorem ralAccepts_iff (sigs : List Sig) :
    ralAccepts quorumF recover sigs keys = true ↔
      keys.length ≠ 0 ∧ quorumF keys.length ≤ sigs.length ∧
        (∀ s ∈ sigs, s.idx < keys.length ∧ recover s.sig = keys[s.idx]?) ∧ sigs.Pairwise (fun a b => a.idx < b.idx) := by
  rw [ralAccepts, Bool.ite_then_false, Bool.ite_then_false, Decidable.not_not]
  -- from a last index of −1 the clause `last < idx` holds of every signature
  simp only [ralSigLoop_iff, Int.neg_one_lt_natCast, and_true]

theorem solAccepts_eq (sigs : List Sig) :
    solAccepts quorumF recover sigs keys = ralAccepts quorumF recover sigs keys := by
  -- Solidity's `sigs.length < q` is Ralph's `¬ q ≤ sigs.length`; its loop starts with `first = true`, i.e. from −1
  simp only [solAccepts, ralAccepts, solSigLoop_eq, Nat.not_le, if_true]

end Whv.Contract
