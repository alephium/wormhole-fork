import Whv.Lemmas.Assemble
/-!
Order independence of the aggregation of one chain message (C02, "confluence").

Setting: a fixed guardian set `g`, a fixed chain message `m` with digest `d`, and event lists made only of
`message m _` and `observation o _` with `o.hash = d`. One invariant (`Pre`) ties the state to the deliveries `pre` handled so far:
the entry for `d` holds the signatures of exactly the accepted signers of `pre`, the node's own VAA iff the message is among them,
and is marked submitted iff some delivery of `pre` was a `Trigger` (`Fired`). A delivery publishes iff it is the first trigger
(`pre_step`), so a run broadcasts one VAA if the list has a trigger and none otherwise (`pre_run`). A trigger needs the message and a
quorum of accepted signers in the list (`trigger_quorum`); given that some accepted observation follows a message event (`AfterMsg`,
the one condition on the order), they suffice (`quorum_trigger`), so that which lists have a trigger depends only on the set of deliveries.
-/
namespace Whv.Proc
open Whv

theorem _root_.List.exists_split_snoc {α : Type u} (P : List α → α → Prop) (es : List α) (x : α) :
    (∃ es1 e es2, es ++ [x] = es1 ++ e :: es2 ∧ P es1 e) ↔ (∃ es1 e es2, es = es1 ++ e :: es2 ∧ P es1 e) ∨ P es x := by
  constructor
  · rintro ⟨es1, e, es2, he, hp⟩
    rcases List.eq_nil_or_concat es2 with rfl | ⟨es2', y, rfl⟩
    · obtain ⟨rfl, rfl⟩ := List.append_singleton_inj.1 he
      exact .inr hp
    · rw [List.concat_eq_append, ← List.cons_append, ← List.append_assoc] at he
      obtain ⟨rfl, rfl⟩ := List.append_singleton_inj.1 he
      exact .inl ⟨es1, e, es2', rfl, hp⟩
  · rintro (⟨es1, e, es2, rfl, hp⟩ | hp)
    · exact ⟨es1, e, es2 ++ [x], by simp, hp⟩
    · exact ⟨es, x, [], rfl, hp⟩

theorem _root_.List.exists_getElem?_iff_split {α : Type u} (P : List α → α → Prop) (es : List α) :
    (∃ k e, es[k]? = some e ∧ P (es.take k) e) ↔ ∃ es1 e es2, es = es1 ++ e :: es2 ∧ P es1 e := by
  constructor
  · rintro ⟨k, e, hk, hp⟩
    refine ⟨es.take k, e, es.drop (k + 1), ?_, hp⟩
    obtain ⟨hlt, he⟩ := List.getElem?_eq_some_iff.1 hk
    rw [← he, List.getElem_cons_drop, List.take_append_drop]
  · rintro ⟨es1, e, es2, rfl, hp⟩
    exact ⟨es1.length, e, by simp, by simpa using hp⟩

/-- The signer an event contributes: the claimed address of an accepted observation, nothing otherwise. It does not look at
`o.hash`: "accepted for `d`" only on lists of window events (`WinEvent`). -/
def accAddr (O : Oracle) (g : GSet) (d : Bytes) : Event → Option Addr
  | .observation o _ => if isAcc O g d o = true then some (bytesToAddress o.addr) else none
  | _ => none

/-- Signers of the accepted observations of `es`, in arrival order, with repetitions. -/
def accAddrs (O : Oracle) (g : GSet) (d : Bytes) (es : List Event) : List Addr := es.filterMap (accAddr O g d)

/-- The distinct members of `g` of which `es` contains an accepted observation (listed in guardian-set order). -/
def acceptedSigners (O : Oracle) (g : GSet) (d : Bytes) (es : List Event) : List Addr :=
  g.keys.filter (fun a => (accAddrs O g d es).contains a)

def isMsg : Event → Bool
  | .message _ _ => true
  | _ => false

/-- Any `message` event, not only `message m`: "the message has been seen" only on lists of window events (`WinEvent`). -/
def hasMsg (es : List Event) : Bool := es.any isMsg

theorem accAddr_observation {O : Oracle} {g : GSet} {d : Bytes} {o : Obs} {now : Int} {a : Addr} :
    accAddr O g d (.observation o now) = some a ↔ isAcc O g d o = true ∧ bytesToAddress o.addr = a := by
  by_cases h : isAcc O g d o = true <;> simp [accAddr, h]

theorem accAddrs_append (O : Oracle) (g : GSet) (d : Bytes) (es es' : List Event) :
    accAddrs O g d (es ++ es') = accAddrs O g d es ++ accAddrs O g d es' := by
  simp [accAddrs]

theorem accAddrs_single_none {O : Oracle} {g : GSet} {d : Bytes} {e : Event} (h : accAddr O g d e = none)
    (es : List Event) : accAddrs O g d (es ++ [e]) = accAddrs O g d es := by
  simp [accAddrs, h]

theorem accAddrs_single_some {O : Oracle} {g : GSet} {d : Bytes} {e : Event} {a : Addr} (h : accAddr O g d e = some a)
    (es : List Event) : accAddrs O g d (es ++ [e]) = accAddrs O g d es ++ [a] := by
  simp [accAddrs, h]

theorem mem_accAddrs_insert {O : Oracle} {g : GSet} {d : Bytes} (es1 es2 : List Event) (e : Event) (a : Addr) :
    a ∈ accAddrs O g d (es1 ++ e :: es2) ↔ a ∈ accAddrs O g d (es1 ++ es2) ∨ accAddr O g d e = some a := by
  simp only [accAddrs, List.filterMap_append, List.filterMap_cons, List.mem_append]
  cases accAddr O g d e with
  | none => simp
  | some x =>
    simp only [List.mem_cons, Option.some.injEq, eq_comm (a := x)]
    rw [or_left_comm, or_comm]

theorem mem_accAddrs {O : Oracle} {g : GSet} {d : Bytes} {es : List Event} {a : Addr} :
    a ∈ accAddrs O g d es ↔ ∃ o now, Event.observation o now ∈ es ∧ isAcc O g d o = true ∧ bytesToAddress o.addr = a := by
  unfold accAddrs
  rw [List.mem_filterMap]
  constructor
  · rintro ⟨e, he, h⟩
    cases e with
    | observation o now => exact ⟨o, now, he, accAddr_observation.1 h⟩
    | _ => cases h
  · rintro ⟨o, now, he, h⟩
    exact ⟨_, he, accAddr_observation.2 h⟩

theorem acceptedSigners_congr {O : Oracle} {g : GSet} {d : Bytes} {es es' : List Event}
    (h : ∀ a, a ∈ accAddrs O g d es ↔ a ∈ accAddrs O g d es') :
    acceptedSigners O g d es = acceptedSigners O g d es' := by
  apply List.filter_congr
  intro a _
  rw [Bool.eq_iff_iff, List.contains_iff_mem, List.contains_iff_mem]
  exact h a

theorem acceptedSigners_length_mono {O : Oracle} {g : GSet} {d : Bytes} {es es' : List Event}
    (h : ∀ a, a ∈ accAddrs O g d es → a ∈ accAddrs O g d es') :
    (acceptedSigners O g d es).length ≤ (acceptedSigners O g d es').length := by
  unfold acceptedSigners
  rw [← List.countP_eq_length_filter, ← List.countP_eq_length_filter]
  apply List.countP_mono_left
  intro a _ ha
  simp only [List.contains_iff_mem] at ha ⊢
  exact h a ha

theorem acceptedSigners_nodup {O : Oracle} {g : GSet} (hgok : GSetOk g) (d : Bytes) (es : List Event) :
    (acceptedSigners O g d es).Nodup :=
  hgok.1.sublist List.filter_sublist

theorem acceptedSigners_perm {O : Oracle} {g : GSet} {d : Bytes} {es es' : List Event} (h : es.Perm es') :
    acceptedSigners O g d es = acceptedSigners O g d es' :=
  acceptedSigners_congr fun _ => (h.filterMap _).mem_iff

theorem hasMsg_iff {es : List Event} : hasMsg es = true ↔ ∃ e ∈ es, isMsg e = true := by
  simp [hasMsg]

theorem hasMsg_append (es es' : List Event) : hasMsg (es ++ es') = (hasMsg es || hasMsg es') := by
  simp [hasMsg]

theorem hasMsg_snoc_observation (pre : List Event) (o : Obs) (now : Int) :
    hasMsg (pre ++ [.observation o now]) = hasMsg pre := by
  simp [hasMsg, isMsg]

theorem hasMsg_perm {es es' : List Event} (h : es.Perm es') : hasMsg es = hasMsg es' :=
  h.any_eq

/-- `e`, delivered after the events `pre`, finds the quorum complete: it is an accepted observation, the message has been seen
before it, and with it at least `quorum` distinct members have signed. Every later accepted observation is one too; the first is
the one that publishes (`pre_step`). -/
def Trigger (O : Oracle) (g : GSet) (d : Bytes) (pre : List Event) (e : Event) : Prop :=
  (accAddr O g d e).isSome = true ∧ hasMsg pre = true ∧
    quorum g.keys.length ≤ (acceptedSigners O g d (pre ++ [e])).length

def Fired (O : Oracle) (g : GSet) (d : Bytes) (es : List Event) : Prop :=
  ∃ es1 e es2, es = es1 ++ e :: es2 ∧ Trigger O g d es1 e

/-- A trigger somewhere in `es` implies: a message is in `es` and quorum many distinct accepted signers are in `es`. -/
theorem trigger_quorum {O : Oracle} {g : GSet} {d : Bytes} {es1 es2 : List Event} {e : Event}
    (ht : Trigger O g d es1 e) :
    hasMsg (es1 ++ e :: es2) = true ∧ quorum g.keys.length ≤ (acceptedSigners O g d (es1 ++ e :: es2)).length := by
  constructor
  · rw [hasMsg_append, ht.2.1]; simp
  · refine Nat.le_trans ht.2.2 (acceptedSigners_length_mono ?_)
    intro a ha
    rw [List.append_cons, accAddrs_append]
    exact List.mem_append_left _ ha

theorem not_fired_nil {O : Oracle} {g : GSet} {d : Bytes} : ¬ Fired O g d [] := by
  rintro ⟨es1, e, es2, h, _⟩
  cases es1 <;> cases h

theorem fired_snoc {O : Oracle} {g : GSet} {d : Bytes} {es : List Event} {e : Event} :
    Fired O g d (es ++ [e]) ↔ Fired O g d es ∨ Trigger O g d es e :=
  List.exists_split_snoc _ es e

theorem fired_snoc_of_not_acc {O : Oracle} {g : GSet} {d : Bytes} {e : Event} (ha : accAddr O g d e = none) {es : List Event} :
    Fired O g d (es ++ [e]) ↔ Fired O g d es :=
  fired_snoc.trans (or_iff_left fun ht => nomatch ha ▸ ht.1)

theorem Fired.hasMsg {O : Oracle} {g : GSet} {d : Bytes} {es : List Event} (h : Fired O g d es) : hasMsg es = true := by
  obtain ⟨es1, e, es2, rfl, ht⟩ := h
  exact (trigger_quorum ht).1

def AfterMsg (O : Oracle) (g : GSet) (d : Bytes) (es : List Event) : Prop :=
  ∃ es1 e es2, es = es1 ++ e :: es2 ∧ hasMsg es1 = true ∧ (accAddr O g d e).isSome = true

theorem AfterMsg.hasMsg {O : Oracle} {g : GSet} {d : Bytes} {es : List Event} (h : AfterMsg O g d es) : hasMsg es = true := by
  obtain ⟨es1, e, es2, rfl, hm, _⟩ := h
  rw [hasMsg_append, hm]
  rfl

/-- When some accepted observation comes after the message, some delivery is a trigger (the conclusion is `Fired es`) as soon as `es`
holds quorum many distinct accepted signers: the last delivery is one if it is accepted; if not, it contributes nothing and can be
left out. -/
theorem quorum_trigger {O : Oracle} {g : GSet} {d : Bytes} {es : List Event} (hafter : AfterMsg O g d es)
    (hq : quorum g.keys.length ≤ (acceptedSigners O g d es).length) :
    ∃ es1 e es2, es = es1 ++ e :: es2 ∧ Trigger O g d es1 e := by
  induction es using snoc_induction with
  | hnil =>
    obtain ⟨es1, _, _, h, _⟩ := hafter
    cases es1 <;> cases h
  | hsnoc es x ih =>
    -- the accepted observation after the message lies within `es`, or it is `x` itself
    rcases (List.exists_split_snoc _ es x).1 hafter with h | ⟨hm, hx⟩
    · cases hx : accAddr O g d x with
      | none =>
        rw [acceptedSigners_congr (es' := es) fun a => by rw [accAddrs_single_none hx]] at hq
        exact fired_snoc.2 (.inl (ih h hq))
      | some a => exact fired_snoc.2 (.inr ⟨by rw [hx]; rfl, AfterMsg.hasMsg h, hq⟩)
    · exact fired_snoc.2 (.inr ⟨hx, hm, hq⟩)

/-- The entry `st` for `d` holds what the deliveries `pre` put there: a signature of each accepted signer and of nobody else, and,
once the message is among them, the VAA built from it with `g` as snapshot. -/
structure Reflects (O : Oracle) (g : GSet) (m : Msg) (d : Bytes) (pre : List Event) (st : VState) : Prop where
  recovers : ∀ p ∈ st.signatures, O.recover d p.2 = some p.1
  keys : ∀ a, (st.signatures.lookup a).isSome = true ↔ a ∈ accAddrs O g d pre
  our : st.ourVAA = if hasMsg pre = true then some (vaaOfMsg g.index m) else none
  snap : st.gs = if hasMsg pre = true then some g else none

/-- The invariant of a window: `s` is a state the deliveries `pre` (a prefix of the run, hence the name) lead to. The entry for `d`
is `entryOrFresh s d now`, for all `now`, so that the not yet existing entry is covered (`firstObserved` is all that depends on
`now`). Nothing of `m` is stored before the publication; what is stored afterwards does not matter. -/
structure Pre (O : Oracle) (g : GSet) (m : Msg) (d : Bytes) (pre : List Event) (s : PState) : Prop where
  gs : s.gs = some g
  ent : ∀ now, Reflects O g m d pre (entryOrFresh s d now)
  sub : ∀ now, (entryOrFresh s d now).submitted = true ↔ Fired O g d pre
  db : ¬ Fired O g d pre → s.db.lookup (vaaOfMsg g.index m).body.id = none

/-- The signatures `handleObservation` assembles when it handles `o` at `now` in state `s`: those of the entry for `d`, `o`'s
recorded among them. -/
def sigsAt (g : GSet) (s : PState) (d : Bytes) (o : Obs) (now : Int) : List Sig :=
  assemble g.keys (recordSig (entryOrFresh s d now) (bytesToAddress o.addr) o.sig).signatures

/-- Handled in state `s` after the deliveries `pre`, the observation `o` publishes: it is the first trigger, and the outputs of the
step are the one VAA built from `m` with the signatures recorded at this moment, which form a `Valid` list with one signature per
distinct accepted signer so far. -/
structure Publishes (O : Oracle) (g : GSet) (m : Msg) (d : Bytes) (pre : List Event) (s : PState) (o : Obs) (now : Int)
    (outs : List Out) : Prop where
  first : ¬ Fired O g d pre
  trigger : Trigger O g d pre (.observation o now)
  outs_eq : outs = [Out.vaa (marshal { vaaOfMsg g.index m with sigs := sigsAt g s d o now })]
  valid : C06.Valid (O.recover d) (sigsAt g s d o now) g.keys
  length : (sigsAt g s d o now).length = (acceptedSigners O g d (pre ++ [.observation o now])).length

section
variable {O : Oracle} {g : GSet} {m : Msg} {d : Bytes} {pre : List Event} {s : PState} {st : VState}

theorem Reflects.assemble_length (h : Reflects O g m d pre st) :
    (assemble g.keys st.signatures).length = (acceptedSigners O g d pre).length := by
  rw [Proc.assemble_length]
  congr 1
  apply List.filter_congr
  intro a _
  rw [Bool.eq_iff_iff, h.keys a, List.contains_iff_mem]

theorem Reflects.record (h : Reflects O g m d pre st) {o : Obs} (hacc : isAcc O g d o = true) (now : Int) :
    Reflects O g m d (pre ++ [.observation o now]) (recordSig st (bytesToAddress o.addr) o.sig) := by
  have hmsg := hasMsg_snoc_observation pre o now
  refine ⟨forall_mem_alInsert ((isAcc_iff ..).1 hacc).1 h.recovers, fun a => ?_, by rw [hmsg]; exact h.our, by rw [hmsg]; exact h.snap⟩
  rw [accAddrs_single_some (accAddr_observation.2 ⟨hacc, rfl⟩), List.mem_append, List.mem_singleton, ← h.keys a]
  show ((alInsert _ _ _).lookup a).isSome = true ↔ _  -- what `recordSig` does to `signatures`
  rw [lookup_alInsert]
  by_cases ha : a = bytesToAddress o.addr
  · rw [if_pos (beq_iff_eq.2 ha)]; exact ⟨fun _ => .inr ha, fun _ => rfl⟩
  · rw [if_neg (mt beq_iff_eq.1 ha)]; exact ⟨.inl, (·.resolve_right ha)⟩

/-- A state with no entry for `d` and nothing stored for `m`. -/
theorem pre_init (hgs : s.gs = some g) (hagg : s.agg.lookup d = none) (hdb : s.db.lookup (vaaOfMsg g.index m).body.id = none) :
    Pre O g m d [] s := by
  have he : ∀ now, entryOrFresh s d now = { firstObserved := now } := by
    intro now; unfold entryOrFresh; rw [hagg]
  refine ⟨hgs, fun now => ?_, fun now => ?_, fun _ => hdb⟩ <;> rw [he]
  · exact ⟨nofun, fun a => by simp [accAddrs], rfl, rfl⟩
  · exact iff_of_false nofun not_fired_nil

theorem pre_insert {pre' : List Event} {db' : List (VaaId × Bytes)} (hgs : s.gs = some g) (hst : Reflects O g m d pre' st)
    (hsub : st.submitted = true ↔ Fired O g d pre')
    (hdb : ¬ Fired O g d pre' → db'.lookup (vaaOfMsg g.index m).body.id = none) :
    Pre O g m d pre' { s with agg := alInsert d st s.agg, db := db' } :=
  -- `entryOrFresh` reads `agg` only, so the lemma for `{ s with agg := … }` applies whatever `db'` is
  have he : ∀ now, entryOrFresh { s with agg := alInsert d st s.agg, db := db' } d now = st := entryOrFresh_insert s d st
  ⟨hgs, fun now => (he now).symm ▸ hst, fun now => (he now).symm ▸ hsub, hdb⟩

theorem Pre.snoc_of_not_acc (hP : Pre O g m d pre s) {e : Event} (ha : accAddr O g d e = none)
    (hm : hasMsg (pre ++ [e]) = hasMsg pre) : Pre O g m d (pre ++ [e]) s := by
  refine ⟨hP.gs, fun now => ?_, fun now => (hP.sub now).trans (fired_snoc_of_not_acc ha).symm,
    fun h => hP.db (mt (fired_snoc_of_not_acc ha).2 h)⟩
  have h0 := hP.ent now
  exact ⟨h0.recovers, fun a => by rw [accAddrs_single_none ha]; exact h0.keys a, by rw [hm]; exact h0.our, by rw [hm]; exact h0.snap⟩

theorem pre_gate (hP : Pre O g m d pre s) : gateSet s d = some g := by
  rw [gateSet_eq_settleGs s d 0, settleGs, (hP.ent 0).snap]
  cases hasMsg pre
  · exact hP.gs
  · rfl

/-! The fields of `Pre.ent`, read for the entry of `d`. -/

theorem Pre.recv (hP : Pre O g m d pre s) : ∀ now, ∀ p ∈ (entryOrFresh s d now).signatures, O.recover d p.2 = some p.1 :=
  fun now => (hP.ent now).recovers

theorem Pre.keys (hP : Pre O g m d pre s) :
    ∀ now a, ((entryOrFresh s d now).signatures.lookup a).isSome = true ↔ a ∈ accAddrs O g d pre :=
  fun now => (hP.ent now).keys

theorem Pre.our (hP : Pre O g m d pre s) :
    ∀ now, (entryOrFresh s d now).ourVAA = if hasMsg pre = true then some (vaaOfMsg g.index m) else none :=
  fun now => (hP.ent now).our

theorem Pre.snap (hP : Pre O g m d pre s) : ∀ now, (entryOrFresh s d now).gs = if hasMsg pre = true then some g else none :=
  fun now => (hP.ent now).snap

/- In `pre_message`, `pre_step` and `pre_run` the digest stays a variable `d`: what `d` is matters at one place only, where the message
is signed and filed under its digest (`subst hd` in `pre_message`). -/

theorem pre_message (hO : OracleOk O) (cfg : Config)
    (hd : d = O.digestOf (vaaOfMsg g.index m).body)
    (hng : ¬ (m.emitter = cfg.govEmitter ∧ m.emitterChain = cfg.govChain))
    (hP : Pre O g m d pre s) (now : Int) :
    ∃ s' outs, step O cfg s (.message m now) = .ok s' outs ∧ (∀ b, Out.vaa b ∉ outs) ∧
      Pre O g m d (pre ++ [.message m now]) s' := by
  have ha : accAddr O g d (.message m now) = none := rfl
  have hm : hasMsg (pre ++ [Event.message m now]) = true := by simp [hasMsg, isMsg]
  -- the message is dropped only after the publication, when the stored VAA may make `handleMessage` do so
  have hcases : Fired O g d pre ∧ handleMessage O cfg s m now = .ok s [] ∨
      handleMessage O cfg s m now = signBroadcast O cfg s (vaaOfMsg g.index m) m.txHash now := by
    by_cases hf : Fired O g d pre
    · rcases handleMessage_cases O cfg s m now with e | ⟨g', hg', e⟩
      · exact .inl ⟨hf, e⟩
      · cases hP.gs.symm.trans hg'
        exact .inr e
    · exact .inr (handleMessage_fresh O cfg hP.gs m now hng (hP.db hf))
  rcases hcases with ⟨hf, e⟩ | e
  · -- the entry holds the own VAA already
    exact ⟨s, [], e, fun _ => nofun, hP.snoc_of_not_acc ha (hm.trans hf.hasMsg.symm)⟩
  · -- signed and filed as the own VAA; the rest of the entry stays
    subst hd
    rcases signBroadcast_cases O cfg s (vaaOfMsg g.index m) m.txHash now with ⟨hn, _⟩ | ⟨sig, _, e'⟩
    · -- the node's signer does not fail
      have hs := hO.sign_ok (O.digestOf (vaaOfMsg g.index m).body)
      rw [hn] at hs
      cases hs
    · refine ⟨_, _, e.trans e', fun b => broadcastSignature_no_vaa _ _ _ _ _ _ _ b, pre_insert hP.gs ?_ ?_ ?_⟩
      · have h0 := hP.ent now
        exact ⟨h0.recovers, fun a => by rw [accAddrs_single_none ha]; exact h0.keys a, by rw [hm]; rfl, by rw [hm]; exact hP.gs⟩
      · exact (hP.sub now).trans (fired_snoc_of_not_acc ha).symm
      · exact fun h => hP.db (mt (fired_snoc_of_not_acc ha).2 h)

/-- One delivery of the window: unless it is the first trigger it broadcasts no VAA — a message is at most signed, an observation at
most recorded. -/
theorem pre_step (hO : OracleOk O) (cfg : Config) (hgok : GSetOk g)
    (hd : d = O.digestOf (vaaOfMsg g.index m).body)
    (hng : ¬ (m.emitter = cfg.govEmitter ∧ m.emitterChain = cfg.govChain))
    (hP : Pre O g m d pre s) {e : Event} (he : WinEvent d m e) :
    ∃ s' outs, step O cfg s e = .ok s' outs ∧ Pre O g m d (pre ++ [e]) s' ∧
      (((Trigger O g d pre e → Fired O g d pre) ∧ ∀ b, Out.vaa b ∉ outs) ∨
       ∃ o now, e = .observation o now ∧ Publishes O g m d pre s o now outs) := by
  rcases he with ⟨now, rfl⟩ | ⟨o, now, rfl, rfl⟩
  · obtain ⟨s', outs, h1, h2, h3⟩ := pre_message hO cfg hd hng hP now
    exact ⟨s', outs, h1, h3, .inl ⟨(fun ht => nomatch ht.1), h2⟩⟩
  · have hmsg := hasMsg_snoc_observation pre o now
    rw [step, handleObservation_eq O (pre_gate hP) now]
    by_cases hacc : isAcc O g o.hash o = true
    · rw [if_pos hacc]
      -- the entry with the new signature reflects the longer list; its `submitted` is still that of `pre`
      have h1 := (hP.ent now).record hacc now
      have hsub : (recordSig (entryOrFresh s o.hash now) (bytesToAddress o.addr) o.sig).submitted = true ↔ Fired O g o.hash pre :=
        hP.sub now
      -- `st1` for short; `hst` turns it back where `sigsAt` is to be recognised
      generalize hst : recordSig (entryOrFresh s o.hash now) (bytesToAddress o.addr) o.sig = st1 at h1 hsub ⊢
      have hlen := h1.assemble_length
      have hour := h1.our
      rw [hmsg] at hour
      have htrig : Trigger O g o.hash pre (.observation o now) ↔
          hasMsg pre = true ∧ quorum g.keys.length ≤ (assemble g.keys st1.signatures).length := by
        rw [hlen]; simp [Trigger, accAddr, hacc]
      rcases obsFinish_cases o.hash g st1 with ⟨hb, _⟩ | ⟨hn, e⟩ | ⟨v, hv, hq, hns, e⟩
      · -- no panic: every recorded signature recovers, so it is 65 bytes long
        rw [badSigLen_false fun p hp => hO.recover_len _ _ _ (h1.recovers p hp)] at hb
        cases hb
      · -- recorded: below quorum, without the message, or submitted already
        have hnt : Trigger O g o.hash pre (.observation o now) → Fired O g o.hash pre := by
          intro ht
          obtain ⟨hm, hq⟩ := htrig.1 ht
          rw [if_pos hm] at hour
          exact hsub.1 (eq_true_of_ne_false fun h => hn _ hour ⟨hq, h⟩)
        have hf := fired_snoc.trans (or_iff_left_of_imp hnt)
        exact ⟨_, [], e s, pre_insert hP.gs h1 (hsub.trans hf.symm) fun h => hP.db (mt hf.2 h), .inl ⟨hnt, fun _ => nofun⟩⟩
      · -- published: the entry holds the own VAA, so the message has been seen; quorum; not submitted, so nothing fired before
        have hm : hasMsg pre = true := Decidable.by_contra fun h => by rw [hv, if_neg h] at hour; cases hour
        rw [hv, if_pos hm] at hour
        cases hour
        have ht := htrig.2 ⟨hm, hq⟩
        have hf := fired_snoc.2 (.inr ht)
        subst hst
        -- the fields of `h1` one by one: the entry filed is `{ st1 with submitted := true }`
        refine ⟨_, _, e s, pre_insert hP.gs ⟨h1.recovers, h1.keys, h1.our, h1.snap⟩ (iff_of_true rfl hf) (absurd hf),
          .inr ⟨o, now, rfl, fun hf' => ?_, ht, rfl, assemble_valid _ g hgok _ h1.recovers, hlen⟩⟩
        rw [hsub.2 hf'] at hns
        cases hns
    · rw [if_neg hacc]
      have ha : accAddr O g o.hash (.observation o now) = none := if_neg hacc
      exact ⟨s, [], rfl, hP.snoc_of_not_acc ha hmsg, .inl ⟨(fun ht => nomatch ha ▸ ht.1), fun _ => nofun⟩⟩

end

def isVaaOut : Out → Bool
  | .vaa _ => true
  | _ => false

/-- Number of `SignedVAAWithQuorum` broadcasts in the outputs of a run. -/
def vaaCount (outs : List (List Out)) : Nat := (outs.flatten.filter isVaaOut).length

theorem vaaCount_pos_iff {outs : List (List Out)} : 0 < vaaCount outs ↔ ∃ os ∈ outs, ∃ b, Out.vaa b ∈ os := by
  unfold vaaCount
  rw [List.length_filter_pos_iff]
  constructor
  · rintro ⟨x, hx, hp⟩
    obtain ⟨os, hos, hx⟩ := List.mem_flatten.1 hx
    cases x with
    | vaa b => exact ⟨os, hos, b, hx⟩
    | _ => cases hp
  · rintro ⟨os, hos, b, hb⟩
    exact ⟨_, List.mem_flatten.2 ⟨os, hos, hb⟩, rfl⟩

theorem vaaCount_snoc (outs : List (List Out)) (o : List Out) :
    vaaCount (outs ++ [o]) = vaaCount outs + vaaCount [o] := by
  simp [vaaCount]

def NoVaa (outs : List (List Out)) : Prop := ∀ os ∈ outs, ∀ b, Out.vaa b ∉ os

theorem vaaCount_noVaa {outs : List (List Out)} (h : NoVaa outs) : vaaCount outs = 0 :=
  Nat.eq_zero_of_not_pos fun hp =>
    let ⟨os, hos, b, hb⟩ := vaaCount_pos_iff.1 hp
    h os hos b hb

theorem vaaCount_single_of_no_vaa {o : List Out} (h : ∀ b, Out.vaa b ∉ o) : vaaCount [o] = 0 :=
  vaaCount_noVaa fun os hos b => by cases List.mem_singleton.1 hos; exact h b

theorem vaaCount_shape {o1 o2 : List (List Out)} (b : Bytes) (h1 : NoVaa o1) (h2 : NoVaa o2) :
    vaaCount (o1 ++ [Out.vaa b] :: o2) = 1 := by
  have e : vaaCount (o1 ++ [Out.vaa b] :: o2) = vaaCount o1 + (vaaCount o2 + 1) := by simp [vaaCount, isVaaOut, List.filter]
  rw [e, vaaCount_noVaa h1, vaaCount_noVaa h2]

theorem mem_shape {o1 o2 : List (List Out)} {b b' : Bytes} {os : List Out} (h1 : NoVaa o1) (h2 : NoVaa o2)
    (hos : os ∈ o1 ++ [Out.vaa b] :: o2) (hb : Out.vaa b' ∈ os) : os = [Out.vaa b] ∧ b' = b := by
  simp only [List.mem_append, List.mem_cons] at hos
  rcases hos with hos | rfl | hos
  · exact absurd hb (h1 os hos b')
  · simp at hb; exact ⟨rfl, hb⟩
  · exact absurd hb (h2 os hos b')

/-- From a state that satisfies the invariant for no deliveries (`pre_init`) the deliveries run without a panic, to a state that
satisfies it for all of them, and broadcast one signed VAA if one of them is a trigger and none otherwise. -/
theorem pre_run {O : Oracle} (hO : OracleOk O) (cfg : Config) {g : GSet} (hgok : GSetOk g) {m : Msg} {d : Bytes}
    (hd : d = O.digestOf (vaaOfMsg g.index m).body)
    (hng : ¬ (m.emitter = cfg.govEmitter ∧ m.emitterChain = cfg.govChain))
    {s0 : PState} (hP : Pre O g m d [] s0) (es : List Event) (hev : ∀ e ∈ es, WinEvent d m e) :
    ∃ sf outs, run O cfg s0 es = .ok (sf, outs) ∧ Pre O g m d es sf ∧
      ((¬ Fired O g d es ∧ vaaCount outs = 0) ∨ (Fired O g d es ∧ vaaCount outs = 1)) := by
  induction es using snoc_induction with
  | hnil => exact ⟨s0, [], rfl, hP, .inl ⟨not_fired_nil, rfl⟩⟩
  | hsnoc es e ih =>
    obtain ⟨s1, outs, hr, hpre, hc⟩ := ih fun x hx => hev x (List.mem_append_left _ hx)
    obtain ⟨sf, o, hs, hpost, h⟩ :=
      pre_step hO cfg hgok hd hng hpre (hev e (List.mem_append_right _ (List.mem_singleton.2 rfl)))
    refine ⟨sf, _, run_append _ hr (run_cons_iff.2 ⟨_, _, _, hs, rfl, rfl⟩), hpost, ?_⟩
    rw [vaaCount_snoc]
    rcases h with ⟨hnt, hnv⟩ | ⟨ob, now, rfl, hpub⟩
    · rw [fired_snoc.trans (or_iff_left_of_imp hnt), vaaCount_single_of_no_vaa hnv]
      exact hc
    · rcases hc with ⟨_, h0⟩ | ⟨hf, _⟩
      · exact .inr ⟨fired_snoc.2 (.inr hpub.trigger), by rw [h0, hpub.outs_eq]; rfl⟩
      · exact absurd hf hpub.first

end Whv.Proc
