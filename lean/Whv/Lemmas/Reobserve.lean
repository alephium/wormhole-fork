import Whv.Model.Reobserve
import Whv.Lemmas.Basic
/-! Whatever a request meets, the dispatcher model does one of two things with it: it forwards and remembers it, or nothing
changes.  The lemmas here say that once for each of `dispatch`, `stepEv` and `step`; the invariants of `run` rest on them. -/
namespace Whv.Reobserve

/-- At most one cache entry per key (what a Go map guarantees; here it is an invariant of the model). -/
def KeysNodup (c : Cache) : Prop := (c.map (·.1)).Nodup

theorem hasKey_cons (e : Key × Nat) (c : Cache) (k : Key) : hasKey (e :: c) k = (e.1 == k || hasKey c k) := rfl

theorem hasKey_iff {c : Cache} {k : Key} : hasKey c k = true ↔ ∃ a, (k, a) ∈ c := by
  simp only [hasKey, List.any_eq_true, beq_iff_eq, Prod.exists, exists_and_right, exists_eq_right]

theorem hasKey_false_iff {c : Cache} {k : Key} : hasKey c k = false ↔ ∀ a, (k, a) ∉ c := by
  rw [Bool.eq_false_iff, Ne, hasKey_iff, not_exists]

theorem mem_purge {w now : Nat} {c : Cache} {e : Key × Nat} :
    e ∈ purge w now c ↔ e ∈ c ∧ ¬ now > e.2 + w := by
  simp [purge, List.mem_filter]

theorem purge_removes {w T : Nat} {c : Cache} {k : Key} {t0 : Nat} (hn : KeysNodup c) (hm : (k, t0) ∈ c)
    (hT : T > t0 + w) : hasKey (purge w T c) k = false := by
  rw [hasKey_false_iff]
  intro a ha
  obtain ⟨hac, hkeep⟩ := mem_purge.1 ha
  -- one entry per key: the survivor `(k, a)` is `(k, t0)`, which the purge does not keep
  cases congrArg Prod.snd (List.eq_of_nodup_map Prod.fst hn hac hm rfl)
  exact hkeep hT

theorem dispatch_cases (c : Cache) (now : Nat) (r : Req) (room : Nat → Option Bool) :
    (hasKey c r.key = false ∧ room (r.chain % 65536) = some true ∧
      dispatch c now r room = ((r.key, now) :: c, .forwarded (r.chain % 65536))) ∨
    (¬(hasKey c r.key = false ∧ room (r.chain % 65536) = some true) ∧
      ∃ o, dispatch c now r room = (c, o) ∧
        (hasKey c r.key = true ∧ o = .duplicate ∨ room (r.chain % 65536) = none ∧ o = .unknown ∨
          room (r.chain % 65536) = some false ∧ o = .full)) := by
  unfold dispatch
  split
  · next hk => exact .inr ⟨fun h => absurd (h.1.symm.trans hk) nofun, _, rfl, .inl ⟨hk, rfl⟩⟩  -- remembered
  · next hk =>
    split
    · next hr => exact .inr ⟨fun h => absurd (h.2.symm.trans hr) nofun, _, rfl, .inr (.inl ⟨hr, rfl⟩)⟩  -- no watcher
    · next hr => exact .inr ⟨fun h => absurd (h.2.symm.trans hr) nofun, _, rfl, .inr (.inr ⟨hr, rfl⟩)⟩  -- queue full
    · next hr => exact .inl ⟨Bool.eq_false_iff.2 hk, hr, rfl⟩  -- room: forwarded

theorem dispatch_forwarded {c c' : Cache} {now : Nat} {r : Req} {room : Nat → Option Bool} {ch : Nat}
    (h : dispatch c now r room = (c', .forwarded ch)) :
    ch = r.chain % 65536 ∧ room ch = some true ∧ hasKey c r.key = false ∧ c' = (r.key, now) :: c := by
  rcases dispatch_cases c now r room with ⟨hk, hr, e⟩ | ⟨_, o, e, ho⟩
  · cases e.symm.trans h
    exact ⟨rfl, hr, hk, rfl⟩
  · cases e.symm.trans h
    simp at ho  -- none of the three outcomes of a drop is `.forwarded`

theorem stepEv_req (w : Nat) (c : Cache) (now : Nat) (r : Req) (room : Option Bool) :
    stepEv w c (.req now r room) =
      if hasKey c r.key = false ∧ room = some true then ((r.key, now) :: c, some (r.key, now)) else (c, none) := by
  rcases dispatch_cases c now r (fun _ => room) with ⟨hk, hr, d⟩ | ⟨hd, o, d, ⟨_, rfl⟩ | ⟨_, rfl⟩ | ⟨_, rfl⟩⟩
  · rw [if_pos ⟨hk, hr⟩]
    simp only [stepEv, d]
  all_goals
    rw [if_neg hd]
    simp only [stepEv, d]

theorem stepEv_cases (w : Nat) (c : Cache) (e : Ev) :
    (∃ T, e = .tick T ∧ stepEv w c e = (purge w T c, none)) ∨
    stepEv w c e = (c, none) ∨
    (∃ k, hasKey c k = false ∧ stepEv w c e = ((k, e.time) :: c, some (k, e.time))) := by
  cases e with
  | tick T => exact .inl ⟨T, rfl, rfl⟩
  | req now r room =>
    rw [stepEv_req]
    split
    · next h => exact .inr (.inr ⟨r.key, h.1, rfl⟩)
    · exact .inr (.inl rfl)

theorem run_cons (w : Nat) (c : Cache) (e : Ev) (es : List Ev) :
    run w c (e :: es) = ((run w (stepEv w c e).1 es).1, (stepEv w c e).2.toList ++ (run w (stepEv w c e).1 es).2) := rfl

theorem keysNodup_run (w : Nat) (evs : List Ev) (c : Cache) (h : KeysNodup c) :
    KeysNodup (run w c evs).1 := by
  induction evs generalizing c with
  | nil => exact h
  | cons e es ih =>
    rw [run_cons]
    apply ih
    rcases stepEv_cases w c e with ⟨T, _, h'⟩ | h' | ⟨k, hk, h'⟩ <;> rw [h']
    · exact (List.Sublist.map _ List.filter_sublist).nodup h
    · exact h
    · refine List.nodup_cons.2 ⟨fun hm => ?_, h⟩
      obtain ⟨⟨k', a⟩, ha, rfl⟩ := List.mem_map.1 hm
      exact hasKey_false_iff.1 hk a ha

theorem monotone_weaken {a b : Nat} {l : List Ev} (h : Monotone a l) (hb : b ≤ a) : Monotone b l := by
  cases l with
  | nil => trivial
  | cons e es => exact ⟨Nat.le_trans hb h.1, h.2⟩

/-- The window invariant, for one entry.  On a history whose clock does not go backwards, if `(k, t0)` is remembered
as long as the clock is within `t0 + w`, then every forward of `k` is later than `t0 + w`: a tick purges the entry only
once the clock is past `t0 + w`, and a request for a remembered key is not forwarded. -/
theorem forwards_after_window (w : Nat) (k : Key) (t0 : Nat) (evs : List Ev) {c : Cache} {lb : Nat}
    (hmono : Monotone lb evs) (hc : lb ≤ t0 + w → (k, t0) ∈ c) :
    ∀ f ∈ (run w c evs).2, f.1 = k → f.2 > t0 + w := by
  induction evs generalizing c lb with
  | nil => nofun
  | cons e es ih =>
    obtain ⟨hlb, hmono⟩ := hmono
    rw [run_cons]
    rcases stepEv_cases w c e with ⟨T, rfl, h⟩ | h | ⟨k', hk, h⟩ <;> rw [h]
    · exact ih hmono fun hT => mem_purge.2 ⟨hc (Nat.le_trans hlb hT), Nat.not_lt.2 hT⟩
    · exact ih hmono fun hT => hc (Nat.le_trans hlb hT)
    · intro f hf
      rcases List.mem_cons.1 hf with rfl | hf
      · rintro rfl
        exact Nat.lt_of_not_le fun hT => hasKey_false_iff.1 hk t0 (hc (Nat.le_trans hlb hT))
      · exact ih hmono (fun hT => List.mem_cons_of_mem _ (hc (Nat.le_trans hlb hT))) f hf

/-- At most once per window, from any cache: a forward is remembered with its own time, so `forwards_after_window`
applies to everything after it. -/
theorem forwards_pairwise_window (w : Nat) (evs : List Ev) {c : Cache} {lb : Nat} (hmono : Monotone lb evs) :
    (run w c evs).2.Pairwise (fun a b => a.1 = b.1 → b.2 > a.2 + w) := by
  induction evs generalizing c lb with
  | nil => exact .nil
  | cons e es ih =>
    rw [run_cons]
    rcases stepEv_cases w c e with ⟨T, rfl, h⟩ | h | ⟨k, _, h⟩ <;> rw [h]
    · exact ih hmono.2
    · exact ih hmono.2
    · exact List.pairwise_cons.2 ⟨fun b hb hk => forwards_after_window w k e.time es hmono.2
        (fun _ => List.mem_cons_self) b hb hk.symm, ih hmono.2⟩

theorem mem_setChan {chans : List (Nat × Chan)} {ch : Nat} {q : Chan} {e : Nat × Chan}
    (h : e ∈ setChan chans ch q) : e = (ch, q) ∨ e ∈ chans :=
  (List.mem_cons.1 h).imp_right fun h => (List.mem_filter.1 h).1

theorem step_req_cases (w : Nat) (s : State) (now : Nat) (r : Req) :
    ((step w s (.req now r)).1 = s ∧ fwdOf w s (.req now r) = []) ∨
    (hasKey s.cache r.key = false ∧ s.room (r.chain % 65536) = some true ∧
      ∃ q, s.chans.lookup (r.chain % 65536) = some q ∧ q.items.length < q.cap ∧
        (step w s (.req now r)).1.chans = setChan s.chans (r.chain % 65536) { q with items := q.items ++ [r] } ∧
        fwdOf w s (.req now r) = [r]) := by
  rcases dispatch_cases s.cache now r s.room with ⟨hk, hr, d⟩ | ⟨_, o, d, ⟨_, rfl⟩ | ⟨_, rfl⟩ | ⟨_, rfl⟩⟩
  · refine .inr ⟨hk, hr, ?_⟩
    rw [State.room] at hr
    cases hl : s.chans.lookup (r.chain % 65536) with
    | none =>  -- `room` answered, so the queue exists
      rw [hl] at hr
      cases hr
    | some q =>
      rw [hl] at hr
      exact ⟨q, rfl, of_decide_eq_true (Option.some.inj hr), by simp only [step, d, hl],
        by simp only [fwdOf, step, d, hl]⟩
  all_goals exact .inl ⟨by simp only [step, d], by simp only [fwdOf, step, d]⟩

/-- A queue after a step is an old queue, a new empty one, or an old one (same chain, same capacity) drained or with the one
forwarded request appended where there was room. -/
theorem mem_chans_step {w : Nat} {s : State} {o : Op} {e : Nat × Chan} (he : e ∈ (step w s o).1.chans) :
    e ∈ s.chans ∨ e.2.items = [] ∨ ∃ q, (e.1, q) ∈ s.chans ∧ e.2.cap = q.cap ∧
      ((∃ n, e.2.items = q.items.drop n) ∨
       (q.items.length < q.cap ∧ ∃ r, fwdOf w s o = [r] ∧ e.2.items = q.items ++ [r])) := by
  cases o with
  | tick now => exact .inl he
  | advance now => exact .inl he
  | setchan ch cap => exact (mem_setChan he).elim (fun h => .inr (.inl (h ▸ rfl))) .inl
  | delchan ch => exact .inl (List.mem_filter.1 he).1
  | drain ch n =>
    simp only [step] at he
    split at he
    · next q hl =>
      rcases mem_setChan he with rfl | he
      · exact .inr (.inr ⟨q, List.mem_of_lookup_eq_some hl, rfl, .inl ⟨n, rfl⟩⟩)
      · exact .inl he
    · exact .inl he
  | req now r =>
    rcases step_req_cases w s now r with ⟨h, _⟩ | ⟨_, _, q, hl, hq, h, hf⟩
    · exact .inl (h ▸ he)
    · rw [h] at he
      rcases mem_setChan he with rfl | he
      · exact .inr (.inr ⟨q, List.mem_of_lookup_eq_some hl, rfl, .inr ⟨hq, r, hf, rfl⟩⟩)
      · exact .inl he

end Whv.Reobserve
