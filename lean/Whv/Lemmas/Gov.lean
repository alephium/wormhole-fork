import Whv.Model.Gov
import Whv.Lemmas.Basic
/-!
Lemmas about `Whv.Model.Gov` for C15.  The node writes a payload field after field, the contract reads it by slices at fixed
offsets: `laid_cat` is the bridge between the two.
-/
namespace Whv.Gov
open Whv

theorem hexDecode_length {s : Str} {b : Bytes} : hexDecode s = some b → b.length * 2 = s.length := by
  fun_induction hexDecode s generalizing b <;> intro h <;> cases h
  case case1 => rfl  -- empty input
  case case3 hr _ _ ih =>  -- two digits and the decoded rest
    have := ih hr
    simp only [List.length_cons]
    omega

/-- `hs` has the shape in which `fun_cases` hands over the passed `len(s) != 64` check of the fee and transfer conversions. -/
theorem hexDecode_length_64 {s : Str} {b : Bytes} (h : hexDecode s = some b) (hs : ¬ s.length ≠ 64) : b.length = 32 := by
  have := hexDecode_length h
  omega

theorem hexAddr?_length {s : Str} {a : Bytes} (h : hexAddr? s = some a) : a.length = 20 := by
  unfold hexAddr? at h
  generalize (if has0x s = true then List.drop 2 s else s) = t at h
  by_cases h40 : t.length = 40
  · rw [if_pos h40] at h
    have := hexDecode_length h
    omega
  · rw [if_neg h40] at h
    cases h

theorem coreModule_length : coreModule.length = 32 := by decide +kernel
theorem tokenBridgeModule_length : tokenBridgeModule.length = 32 := by decide +kernel
theorem unbe_coreModule : unbe coreModule = Gen.C15.coreModule := by decide +kernel
theorem unbe_tokenBridgeModule : unbe tokenBridgeModule = Gen.C15.tokenBridgeModule := by decide +kernel

theorem padModule_length {m : Str} (h : m.length ≤ 32) : (padModule m).length = 32 := by
  rw [padModule, List.length_append, List.length_replicate]
  omega

/-- The contract compares the module as a U256: left padding does not change it. -/
theorem unbe_padModule (m : Str) : unbe (padModule m) = unbe m := unbe_zeros_append _ _

/-! ## slices

A payload is a right-nested concatenation of fields.  `laid_cat` finds every field at the slice that starts where the lengths of
the fields before it add up to, and the total length; a layout theorem is `laid_cat` of the kind's list of fields. -/

theorem slice_mid (pre mid post : Bytes) :
    Ral.slice (pre ++ (mid ++ post)) (pre.length, pre.length + mid.length) = some mid := by
  simp [Ral.slice]

theorem slice_last (pre mid : Bytes) (a b : Nat) (ha : pre.length = a) (hb : a + mid.length = b) :
    Ral.slice (pre ++ mid) (a, b) = some mid := by
  subst ha hb
  simpa using slice_mid pre mid []

theorem slice_length {p s : Bytes} {r : Nat × Nat} (h : Ral.slice p r = some s) : s.length = r.2 - r.1 := by
  unfold Ral.slice at h
  split at h
  · next hr =>
    cases h
    simp only [List.length_take, List.length_drop]
    exact Nat.min_eq_left (Nat.sub_le_sub_right hr.2 r.1)
  · cases h

/-- A field of a payload with its length (as a numeral where it is fixed, so that offsets compute). -/
structure Field where
  bytes : Bytes
  len : Nat
  ok : bytes.length = len

def Field.be (w n : Nat) : Field := ⟨Whv.be w n, w, be_length w n⟩

/-- The fields written one after the other, bracketed as the serializers bracket them. -/
def cat : List Field → Bytes
  | [] => []
  | [f] => f.bytes
  | f :: fs => f.bytes ++ cat fs

/-- `Laid p off fs`: the fields `fs` lie back to back in `p`, from offset `off` to its end. -/
def Laid (p : Bytes) : Nat → List Field → Prop
  | off, [] => p.length = off
  | off, f :: fs => Ral.slice p (off, off + f.len) = some f.bytes ∧ Laid p (off + f.len) fs

theorem cat_cons (f : Field) (fs : List Field) : cat (f :: fs) = f.bytes ++ cat fs := by
  cases fs <;> simp [cat]

theorem laid_append (pre : Bytes) (fs : List Field) : Laid (pre ++ cat fs) pre.length fs := by
  induction fs generalizing pre with
  | nil => simp [Laid, cat]
  | cons f fs ih =>
    rw [cat_cons]
    refine ⟨f.ok ▸ slice_mid pre f.bytes (cat fs), ?_⟩
    have := ih (pre ++ f.bytes)
    rwa [List.append_assoc, List.length_append, f.ok] at this

/-- On a list literal both sides unfold: the statement becomes one slice equation per field, with the offsets added up, and the
length of the whole. -/
theorem laid_cat (fs : List Field) : Laid (cat fs) 0 fs := laid_append [] fs

theorem header_of_slices {p m : Bytes} {act : Nat} (h1 : Ral.slice p Gen.C15.moduleSlice = some m)
    (h2 : Ral.slice p Gen.C15.actionSlice = some (be 1 act)) : Ral.header (unbe m) act p = true := by
  simp [Ral.header, h1, h2]

theorem serGuardianSetUpgrade_layout (keys : List Bytes) (idx : Nat) (hw : ∀ k ∈ keys, k.length = 20) :
    Ral.slice (serGuardianSetUpgrade keys idx) Gen.C15.moduleSlice = some coreModule ∧
    Ral.slice (serGuardianSetUpgrade keys idx) Gen.C15.actionSlice = some (be 1 Gen.C15.actNewGuardianSet) ∧
    Ral.slice (serGuardianSetUpgrade keys idx) Gen.C15.gsIndex = some (be 4 idx) ∧
    Ral.slice (serGuardianSetUpgrade keys idx) Gen.C15.gsCount = some (be 1 keys.length) ∧
    Ral.slice (serGuardianSetUpgrade keys idx) (Gen.C15.gsStoreFrom, (serGuardianSetUpgrade keys idx).length) =
      some (be 1 keys.length ++ keys.flatten) ∧
    (serGuardianSetUpgrade keys idx).length = Gen.C15.gsSizeBase + keys.length * Gen.C15.gsSizeStride := by
  obtain ⟨h1, h2, h3, h4, _, h6⟩ := laid_cat [⟨coreModule, _, coreModule_length⟩, .be 1 2,
    .be 4 idx, .be 1 keys.length, ⟨_, _, List.flatten_length_const 20 keys hw⟩]
  -- count byte and keys taken as one field: the blob the contract stores
  obtain ⟨_, _, _, h5, hlen⟩ := laid_cat [⟨coreModule, _, coreModule_length⟩, .be 1 2,
    .be 4 idx, ⟨be 1 keys.length ++ keys.flatten, _, rfl⟩]
  exact ⟨h1, h2, h3, h4, hlen ▸ h5, h6⟩

theorem chunks_flatten (w : Nat) (ks : List Bytes) (h : ∀ k ∈ ks, k.length = w) (rest : Bytes) :
    Ral.chunks w w ks.length (ks.flatten ++ rest) = ks := by
  induction ks with
  | nil => rfl
  | cons k ks ih =>
    obtain ⟨rfl, hks⟩ := List.forall_mem_cons.1 h
    simp [Ral.chunks, ih hks]

theorem length_of_mem_map_be {w : Nat} {seqs : List Nat} {k : Bytes} (hk : k ∈ seqs.map (be w)) : k.length = w := by
  obtain ⟨s, _, rfl⟩ := List.mem_map.1 hk
  exact be_length w s

theorem map_unbe_be8 (seqs : List Nat) (h : ∀ s ∈ seqs, s < 2 ^ 64) : (seqs.map (be 8)).map unbe = seqs := by
  induction seqs with
  | nil => rfl
  | cons s ss ih =>
    obtain ⟨hs, hss⟩ := List.forall_mem_cons.1 h
    rw [List.map_cons, List.map_cons, ih hss, unbe_be_of_lt hs]

/-- The path loop of `destroyUnexecutedSequenceContracts` reads the serialized sequences back. -/
theorem chunks_map_be8 (seqs : List Nat) (h : ∀ s ∈ seqs, s < 2 ^ 64) :
    (Ral.chunks 8 8 seqs.length (seqs.map (be 8)).flatten).map unbe = seqs := by
  have := chunks_flatten 8 (seqs.map (be 8)) (fun _ => length_of_mem_map_be) []
  rw [List.append_nil, List.length_map] at this
  rw [this, map_unbe_be8 seqs h]

theorem gsLoop_ne_panic (gs : List Guardian) (done : List Bytes) : gsLoop gs done ≠ .panic := by
  fun_induction gsLoop gs done
  case case4 ih => exact ih  -- key accepted: the loop goes on
  all_goals nofun

theorem gsLoop_ok_inv {gs : List Guardian} {done addrs : List Bytes} : gsLoop gs done = .ok addrs →
    ∃ keys, keysOf gs = some keys ∧ addrs = done ++ keys ∧ keys.length = gs.length ∧ ∀ k ∈ keys, k.length = 20 := by
  fun_induction gsLoop gs done <;> intro h
  case case1 =>  -- no guardian left
    cases h
    exact ⟨[], rfl, by simp, rfl, by simp⟩
  case case4 a ha _ ih =>  -- key `a` accepted: the loop goes on
    obtain ⟨keys, hk, he, hl, hw⟩ := ih h
    exact ⟨a :: keys, by simp [keysOf, ha, hk], by simp [he], by simp [hl],
      List.forall_mem_cons.2 ⟨hexAddr?_length ha, hw⟩⟩
  all_goals cases h

/-- Only the two serializers with a module argument can panic, and their callers have checked its length. -/
theorem convert_ne_panic (gsi : Nat) (pl : Payload) : convert gsi pl ≠ .panic := by
  cases pl <;> dsimp only [convert]
  case none => nofun
  case updateMessageFee fee => fun_cases updateMessageFeePayload fee <;> nofun
  case transferFee a r => fun_cases transferFeePayload a r <;> nofun
  case contractUpgrade s => fun_cases contractUpgradePayload s <;> nofun
  case destroy c s => fun_cases destroyPayload c s <;> nofun
  case minConsistency l => fun_cases minConsistencyPayload l <;> nofun
  case refundAddress a => fun_cases refundAddressPayload a <;> nofun
  case guardianSet gs =>
    fun_cases guardianSetPayload gs gsi
    case case6 h => exact (gsLoop_ne_panic _ _ h).elim  -- the loop's own panic, which it never has
    all_goals nofun
  case registerChain m c e =>
    fun_cases registerChainPayload m c e
    case case5 hm _ _ _ _ =>  -- every check passed: the serializer
      rw [serRegisterChain, if_neg hm]
      nofun
    all_goals nofun
  case bridgeUpgrade m s =>
    fun_cases bridgeUpgradePayload m s
    case case3 hm _ _ =>  -- every check passed: the serializer
      rw [serBridgeUpgrade, if_neg hm]
      nofun
    all_goals nofun

theorem injectOne_error {cfg : Cfg} {req : Req} {m : Msg} {r : IRes} :
    injectOne cfg req m = .error r → ∃ c e, r = .err c e := by
  fun_cases injectOne cfg req m <;> intro h <;> cases h
  case case4 hp => exact (convert_ne_panic _ _ hp).elim  -- the conversion's panic, which it never has
  all_goals exact ⟨_, _, rfl⟩

theorem injectLoop_ne_panic (cfg : Cfg) (req : Req) (ms : List Msg) (chan : List Vaa) :
    (injectLoop cfg req ms chan).2 ≠ .panic := by
  fun_induction injectLoop cfg req ms chan
  case case1 => nofun  -- no message left
  case case2 ih => exact ih  -- message accepted
  case case3 r hr =>  -- message rejected with `r`
    obtain ⟨c, e, rfl⟩ := injectOne_error hr
    nofun

theorem injectLoop_chan (cfg : Cfg) (req : Req) (ms : List Msg) (chan : List Vaa) :
    injectLoop cfg req ms chan = (chan ++ (injectLoop cfg req ms []).1, (injectLoop cfg req ms []).2) := by
  induction ms generalizing chan with
  | nil => simp [injectLoop]
  | cons m ms ih =>
    unfold injectLoop
    split
    · rw [ih (chan ++ _), ih ([] ++ _)]  -- message accepted: both loops go on, from `chan ++ [v]` and from `[v]`
      simp
    · simp  -- message rejected: both loops stop here

theorem injectLoop_ok_inv (cfg : Cfg) (req : Req) (ms : List Msg) (chan out : List Vaa) :
    injectLoop cfg req ms chan = (out, .ok) → ∃ vs, out = chan ++ vs ∧ ms.map (injectOne cfg req) = vs.map .ok := by
  fun_induction injectLoop cfg req ms chan <;> intro h
  case case1 =>  -- no message left
    cases h
    exact ⟨[], by simp, rfl⟩
  case case2 v hv ih =>  -- message accepted as `v`
    obtain ⟨vs, ho, hf⟩ := ih h
    exact ⟨v :: vs, by simp [ho], by simp [hv, hf]⟩
  case case3 r hr =>  -- message rejected with `r`
    obtain ⟨c, e, rfl⟩ := injectOne_error hr
    cases h

/-! ## the parsers with the facts as data (`RalF`), instantiated with the compiled-in facts, ARE the parsers `Ral`

(each proof checks by `rfl` that the `u256From<N>Byte!` width in `Whv.Gen.C15` equals the width of the slice it is applied to;
`C15.c15_conversions_fit` states the same equations together) -/

theorem conv_of_slice {p s : Bytes} {r : Nat × Nat} (w : Nat) (h : Ral.slice p r = some s) (hw : r.2 - r.1 = w) :
    RalF.conv w s = some (unbe s) := by
  simp [RalF.conv, slice_length h, hw]

theorem header_gen (module action : Nat) (p : Bytes) : RalF.header Facts.gen module action p = Ral.header module action p := by
  rw [RalF.header, Ral.header]
  dsimp only [Facts.gen]
  cases h1 : Ral.slice p Gen.C15.moduleSlice with
  | none => rfl
  | some m =>
    cases h2 : Ral.slice p Gen.C15.actionSlice with
    | none => rfl
    | some a => simp [conv_of_slice Gen.C15.moduleConv h1 rfl]

theorem parseMessageFee_gen (p : Bytes) : RalF.parseMessageFee Facts.gen p = Ral.parseMessageFee p := by
  rw [RalF.parseMessageFee, Ral.parseMessageFee, header_gen]
  dsimp only [Facts.gen]
  cases h : Ral.slice p Gen.C15.feeValue with
  | none => rfl
  | some f => simp only [conv_of_slice Gen.C15.feeConv h rfl]

theorem parseTransferFee_gen (p : Bytes) : RalF.parseTransferFee Facts.gen p = Ral.parseTransferFee p := by
  rw [RalF.parseTransferFee, Ral.parseTransferFee, header_gen]
  dsimp only [Facts.gen]
  cases h : Ral.slice p Gen.C15.tfAmount with
  | none => rfl
  | some a =>
    cases h2 : Ral.slice p Gen.C15.tfRecipient with
    | none => rfl
    | some r => simp only [conv_of_slice Gen.C15.tfAmountConv h rfl]

theorem parseGuardianSet_gen (p : Bytes) : RalF.parseGuardianSet Facts.gen p = Ral.parseGuardianSet p := by
  rw [RalF.parseGuardianSet, Ral.parseGuardianSet, header_gen]
  dsimp only [Facts.gen]
  cases h : Ral.slice p Gen.C15.gsIndex with
  | none => rfl
  | some i =>
    cases h2 : Ral.slice p Gen.C15.gsCount with
    | none => rfl
    | some c => simp only [conv_of_slice Gen.C15.gsIndexConv h rfl, conv_of_slice Gen.C15.gsCountConv h2 rfl]

theorem parseUpgrade_gen (module action : Nat) (p : Bytes) :
    RalF.parseUpgrade Facts.gen module action p = Ral.parseUpgrade module action p := by
  rw [RalF.parseUpgrade, Ral.parseUpgrade, header_gen]
  dsimp only [Facts.gen]
  cases h : Ral.slice p Gen.C15.cuCodeLen with
  | none => rfl
  | some l => simp only [conv_of_slice Gen.C15.cuCodeLenConv h rfl, Option.isSome_some, if_true]

theorem parseRegisterChain_gen (module : Nat) (p : Bytes) :
    RalF.parseRegisterChain Facts.gen module p = Ral.parseRegisterChain module p := by
  rw [RalF.parseRegisterChain, Ral.parseRegisterChain, header_gen]
  dsimp only [Facts.gen]
  cases h : Ral.slice p Gen.C15.rcChain with
  | none => rfl
  | some c =>
    cases h2 : Ral.slice p Gen.C15.rcBridge with
    | none => rfl
    | some b => simp only [conv_of_slice Gen.C15.rcChainConv h rfl]

theorem parseDestroy_gen (p : Bytes) : RalF.parseDestroy Facts.gen p = Ral.parseDestroy p := by
  rw [RalF.parseDestroy, Ral.parseDestroy, header_gen]
  dsimp only [Facts.gen]
  cases h : Ral.slice p Gen.C15.dsChain with
  | none => rfl
  | some c =>
    cases h2 : Ral.slice p Gen.C15.dsCount with
    | none => rfl
    | some l => simp only [conv_of_slice Gen.C15.dsCountConv h2 rfl]

theorem parseMinConsistency_gen (p : Bytes) : RalF.parseMinConsistency Facts.gen p = Ral.parseMinConsistency p := by
  rw [RalF.parseMinConsistency, Ral.parseMinConsistency, header_gen]
  dsimp only [Facts.gen]
  cases h : Ral.slice p Gen.C15.clValue with
  | none => rfl
  | some c => simp only [conv_of_slice Gen.C15.clConv h rfl]

theorem parseRefundAddress_gen (p : Bytes) : RalF.parseRefundAddress Facts.gen p = Ral.parseRefundAddress p := by
  rw [RalF.parseRefundAddress, Ral.parseRefundAddress, header_gen]
  dsimp only [Facts.gen]
  cases h : Ral.slice p Gen.C15.raLen with
  | none => rfl
  | some l => simp only [conv_of_slice Gen.C15.raLenConv h rfl]

end Whv.Gov
