import Whv.Model.Gossip
import Whv.Lemmas.Basic
/-!
The table is handled through `hasRoom` / `stored` (`setHeartbeat_eq`: `SetHeartbeat` succeeds exactly when there is room, and
then leaves `stored`) and its two views `CapOk` and `keys`.  The heartbeat verifier has one characterisation,
`processHeartbeat_cases`, valid for either value of `disableVerify`; `Props/C03` reads acceptance, rejection and the place
of storage off it.  `step_table` says what one operation of the node can do to the table, and for which address (`FilesUnder`).
The request verifier touches no state: its characterisation is the accept-iff `C03.c03_req_accept_iff`.
-/
namespace Whv.Gossip

theorem lookup_mem {κ ν : Type} [BEq κ] [LawfulBEq κ] {l : List (κ × ν)} {k : κ} {v : ν} (h : l.lookup k = some v) :
    (k, v) ∈ l :=
  List.mem_of_lookup_eq_some h

theorem bytesToAddress_length (b : Bytes) : (bytesToAddress b).length = 20 := by
  unfold bytesToAddress
  split
  · next h => rw [List.length_drop, Nat.sub_sub_self (Nat.le_of_lt h)]
  · next h => rw [List.length_append, List.length_replicate, Nat.sub_add_cancel (Nat.le_of_not_lt h)]

/-- Left truncation: only the last 20 bytes of a longer envelope address count. -/
theorem bytesToAddress_append {junk a : Bytes} (h : a.length = 20) : bytesToAddress (junk ++ a) = a := by
  unfold bytesToAddress
  rw [List.length_append, h]
  split
  · exact List.drop_left' (Nat.add_sub_cancel ..).symm
  · next hn =>
    cases junk with
    | nil => rfl
    | cons x l => exact absurd (Nat.lt_add_of_pos_left (Nat.succ_pos _)) hn

theorem bytesToAddress_of_length {b : Bytes} (h : b.length = 20) : bytesToAddress b = b :=
  bytesToAddress_append (junk := []) h

theorem keyOf_some {gs : List Addr} {a k : Addr} (h : keyOf gs a = some k) : k = a ∧ a ∈ gs :=
  have hk : k = a := eq_of_beq (List.find?_some (p := (· == a)) h)
  ⟨hk, hk ▸ List.mem_of_find?_eq_some h⟩

theorem keyOf_none {gs : List Addr} {a : Addr} (h : keyOf gs a = none) : a ∉ gs :=
  fun hm => List.find?_eq_none.1 h a hm BEq.rfl

theorem keyOf_of_mem {gs : List Addr} {a : Addr} (h : a ∈ gs) : keyOf gs a = some a := by
  cases hk : keyOf gs a with
  | none => exact absurd h (keyOf_none hk)
  | some k => rw [(keyOf_some hk).1]

/-- With verification enabled the head of `processSignedHeartbeat` is that of `processSignedObservationRequest`. -/
theorem envelopeKey_false (gs : List Addr) (a : Addr) : envelopeKey false gs a = keyOf gs a := by
  unfold envelopeKey
  cases keyOf gs a <;> rfl

theorem envelopeKey_of_mem {gs : List Addr} {a : Addr} (dv : Bool) (h : a ∈ gs) : envelopeKey dv gs a = some a := by
  unfold envelopeKey
  rw [keyOf_of_mem h]

theorem assocSet_length_le {κ ν : Type} [BEq κ] (l : List (κ × ν)) (k : κ) (v : ν) :
    (assocSet l k v).length ≤ l.length + 1 :=
  Nat.succ_le_succ (List.length_filter_le ..)

theorem assocSet_lookup_self {κ ν : Type} [BEq κ] [LawfulBEq κ] (l : List (κ × ν)) (k : κ) (v : ν) :
    (assocSet l k v).lookup k = some v :=
  List.lookup_cons_self

theorem assocSet_lookup_ne {κ ν : Type} [BEq κ] [LawfulBEq κ] {l : List (κ × ν)} {k k' : κ} {v : ν} (hne : k' ≠ k) :
    (assocSet l k v).lookup k' = l.lookup k' := by
  rw [assocSet, List.lookup_cons, beq_false_of_ne hne]
  exact List.lookup_filter_fst_ne l hne

theorem mem_assocSet {κ ν : Type} [BEq κ] {l : List (κ × ν)} {k : κ} {v : ν} {e : κ × ν} (h : e ∈ assocSet l k v) :
    e = (k, v) ∨ e ∈ l :=
  (List.mem_cons.1 h).imp_right fun h => (List.mem_filter.1 h).1

/-- "The table has room" — exactly when `SetHeartbeat` succeeds. -/
def hasRoom (cap : Nat) (t : Table) (a : Addr) : Bool :=
  match t.get a with
  | none => true
  | some v => decide (v.length < cap)

/-- The table `SetHeartbeat` leaves behind when it succeeds. -/
def stored (t : Table) (a : Addr) (p : Peer) (hb : Hb) : Table :=
  assocSet t a (assocSet ((t.get a).getD []) p hb)

theorem setHeartbeat_eq (cap : Nat) (t : Table) (a : Addr) (p : Peer) (hb : Hb) :
    setHeartbeat cap t a p hb = if hasRoom cap t a then some (stored t a p hb) else none := by
  unfold setHeartbeat hasRoom stored
  cases t.get a with
  | none => rfl
  | some v => simp only [← Nat.not_lt, ite_not, decide_eq_true_eq, Option.getD_some]

theorem setHeartbeat_some_iff {cap : Nat} {t t' : Table} {a : Addr} {p : Peer} {hb : Hb} :
    setHeartbeat cap t a p hb = some t' ↔ hasRoom cap t a = true ∧ t' = stored t a p hb := by
  rw [setHeartbeat_eq]
  cases hasRoom cap t a <;> simp [eq_comm]

theorem get_stored_self (t : Table) (a : Addr) (p : Peer) (hb : Hb) :
    (stored t a p hb).get a = some (assocSet ((t.get a).getD []) p hb) :=
  assocSet_lookup_self ..

theorem get_stored_ne (t : Table) {a a' : Addr} (p : Peer) (hb : Hb) (h : a' ≠ a) : (stored t a p hb).get a' = t.get a' :=
  assocSet_lookup_ne h

/-- every guardian's entry count is within `cap` -/
def CapOk (cap : Nat) (t : Table) : Prop := ∀ e ∈ t, e.2.length ≤ cap

/-- `1 ≤ cap`: `SetHeartbeat` stores a guardian's first entry without looking at the cap (guardianset.go:130-132). -/
theorem capOk_stored {cap : Nat} {t : Table} {a : Addr} {p : Peer} {hb : Hb} (hc : 1 ≤ cap) (h : CapOk cap t)
    (hr : hasRoom cap t a = true) : CapOk cap (stored t a p hb) := by
  intro e he
  rcases mem_assocSet he with rfl | he
  · unfold hasRoom at hr
    cases hg : t.get a with
    | none => exact hc
    | some v =>
      rw [hg] at hr
      exact Nat.le_trans (assocSet_length_le v p hb) (of_decide_eq_true hr)
  · exact h e he

theorem capOk_cleanup {cap maxAge : Nat} {now : Int} {t : Table} (h : CapOk cap t) : CapOk cap (cleanup maxAge now t) := by
  intro e he
  obtain ⟨⟨a, v⟩, hm, rfl⟩ := List.mem_map.1 he
  exact Nat.le_trans (List.length_filter_le ..) (h _ hm)

/-- addresses that have an entry (an inner map) in the table -/
def keys (t : Table) : List Addr := t.map (·.1)

theorem mem_keys_stored {t : Table} {a x : Addr} {p : Peer} {hb : Hb} (h : x ∈ keys (stored t a p hb)) : x = a ∨ x ∈ keys t := by
  obtain ⟨e, he, rfl⟩ := List.mem_map.1 h
  exact (mem_assocSet he).imp (congrArg Prod.fst) fun he => List.mem_map.2 ⟨e, he, rfl⟩

theorem keys_cleanup (maxAge : Nat) (now : Int) (t : Table) : keys (cleanup maxAge now t) = keys t := by
  unfold keys cleanup
  rw [List.map_map]
  rfl

/-- `processSignedHeartbeat` either rejects and leaves the table alone, or every check passed and the decoded heartbeat
is stored, for the sending peer, under the RECOVERED signer, whose entry had room.  With verification enabled that signer
is the envelope address, a member of the set. -/
theorem processHeartbeat_cases (o : Oracles) (cfg : Cfg) (dv : Bool) (gs : List Addr) (t : Table) (src : Peer) (s : Signed) :
    (∃ e, processHeartbeat o cfg dv gs t src s = (t, .error e)) ∨
    ∃ signer h, (dv = false → bytesToAddress s.addr ∈ gs ∧ signer = bytesToAddress s.addr) ∧
      cfg.hbTooShort cfg.hbPrefix.length s.body.length = false ∧
      o.recover (o.H (cfg.hbPrefix ++ s.body)) s.sig = some signer ∧
      o.decodeHb s.body = some h ∧ hasRoom cfg.cap t signer = true ∧
      processHeartbeat o cfg dv gs t src s = (stored t signer src h, .ok h) := by
  fun_cases processHeartbeat o cfg dv gs t src s
  -- the last branch, where every check has passed and `setHeartbeat` succeeded; all others return `(t, .error _)`
  case case7 pk hk hf signer hr hs h hd t' hset =>
    obtain ⟨hroom, rfl⟩ := setHeartbeat_some_iff.1 hset
    refine Or.inr ⟨signer, h, fun hdv => ?_, Bool.eq_false_iff.2 hf, hr, hd, hroom, rfl⟩
    subst hdv
    obtain ⟨rfl, hmem⟩ := keyOf_some (envelopeKey_false gs _ ▸ hk)
    exact ⟨hmem, (Decidable.by_contra fun hne => hs ⟨hne, rfl⟩).symm⟩
  all_goals exact Or.inl ⟨_, rfl⟩

/-- `op` files an entry under `a`: a gossiped heartbeat that names `a`, a member of the set in force, and whose
signature recovers to `a`; or the node's own heartbeat for `a`. -/
def FilesUnder (o : Oracles) (cfg : Cfg) (op : Op) (a : Addr) : Prop :=
  (∃ gs src s, op = .heartbeat gs src s ∧ a = bytesToAddress s.addr ∧ a ∈ gs ∧
    o.recover (o.H (cfg.hbPrefix ++ s.body)) s.sig = some a) ∨ (∃ p hb, op = .own a p hb)

/-- A step leaves the table alone, cleans it up, or stores one entry — where there was room — under an address for
which the operation files. -/
theorem step_table (o : Oracles) (cfg : Cfg) (n : Node) (op : Op) :
    (step o cfg n op).table = n.table ∨ (∃ now, (step o cfg n op).table = cleanup cfg.maxAge now n.table) ∨
    ∃ a p hb, FilesUnder o cfg op a ∧ hasRoom cfg.cap n.table a = true ∧ (step o cfg n op).table = stored n.table a p hb := by
  cases op with
  | cleanup now => exact Or.inr (Or.inl ⟨now, rfl⟩)
  | obsReq gs s =>
    left
    simp only [step]
    split <;> rfl
  | own a p hb =>
    simp only [step]
    cases hs : setHeartbeat cfg.cap n.table a p hb with
    | none => exact Or.inl rfl
    | some t' =>
      obtain ⟨hroom, rfl⟩ := setHeartbeat_some_iff.1 hs
      exact Or.inr (Or.inr ⟨a, p, hb, Or.inr ⟨p, hb, rfl⟩, hroom, rfl⟩)
  | heartbeat gs src s =>
    obtain ⟨e, he⟩ | ⟨signer, h, hv, _, hr, _, hroom, hok⟩ := processHeartbeat_cases o cfg false gs n.table src s
    · exact Or.inl (congrArg Prod.fst he)
    · obtain ⟨hmem, rfl⟩ := hv rfl
      exact Or.inr (Or.inr ⟨_, src, h, Or.inl ⟨gs, src, s, rfl, rfl, hmem, hr⟩, hroom, congrArg Prod.fst hok⟩)

theorem run_append (o : Oracles) (cfg : Cfg) (n : Node) (ops ops' : List Op) :
    run o cfg n (ops ++ ops') = run o cfg (run o cfg n ops) ops' := by
  induction ops generalizing n with
  | nil => rfl
  | cons op ops ih => exact ih _

end Whv.Gossip
