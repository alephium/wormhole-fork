import Whv.Lemmas.Assemble
/-!
The C01 invariant of the processor model: recorded signatures recover to the address they are filed under,
snapshots are sets learned from chain, the own VAA hashes to the key it is filed under, and everything in the store is
a quorum-signed, verifiable VAA.
-/
namespace Whv.Proc
open Whv

/-- "Carries valid signatures, over its own digest, from at least the quorum number of distinct members of `g`, in
strictly ascending guardian order" — `verifySignatures = true` is exactly that by `C06.verify_iff`. -/
def Good (O : Oracle) (g : GSet) (v : Vaa) : Prop :=
  verifySignatures (O.recover (O.digestOf v.body)) v.sigs g.keys = true ∧ quorum g.keys.length ≤ v.sigs.length

def isGov (cfg : Config) (b : Body) : Prop := b.emitter = cfg.govEmitter ∧ b.emitterChain = cfg.govChain

instance (cfg : Config) (b : Body) : Decidable (isGov cfg b) := by unfold isGov; exact inferInstance

/-- `L` = the guardian sets delivered by guardian-set updates so far ("learned from chain"); a parameter because the model does not
remember past sets (`learnAll` rebuilds them from the event list). In `our` the index equation is for chain messages only: an
injected governance VAA brings its own `gsIndex`, only `handleMessage` copies `g.index`. -/
structure Inv1 (O : Oracle) (cfg : Config) (L : List GSet) (s : PState) : Prop where
  cur : ∀ g, s.gs = some g → g ∈ L
  sigs : ∀ p ∈ s.agg, ∀ q ∈ p.2.signatures, O.recover p.1 q.2 = some q.1
  snap : ∀ p ∈ s.agg, ∀ g, p.2.gs = some g → g ∈ L
  our : ∀ p ∈ s.agg, ∀ v, p.2.ourVAA = some v →
          O.digestOf v.body = p.1 ∧ ∃ g, p.2.gs = some g ∧ (¬ isGov cfg v.body → v.gsIndex = g.index)
  db : ∀ p ∈ s.db, ∃ v g, p.2 = marshal v ∧ p.1 = v.body.id ∧ g ∈ L ∧ Good O g v

theorem inv1_init (O : Oracle) (cfg : Config) : Inv1 O cfg [] {} :=
  ⟨nofun, fun _ => nofun, fun _ => nofun, fun _ => nofun, fun _ => nofun⟩

section
variable {O : Oracle} {cfg : Config} {L : List GSet} {s : PState}

theorem inv1_mono {L' : List GSet} (h : Inv1 O cfg L s)
    (hsub : ∀ g ∈ L, g ∈ L') : Inv1 O cfg L' s :=
  ⟨fun g hg => hsub g (h.cur g hg), h.sigs, fun p hp g hg => hsub g (h.snap p hp g hg), h.our,
   fun p hp => by
     obtain ⟨v, g, a, b, c, d⟩ := h.db p hp
     exact ⟨v, g, a, b, hsub g c, d⟩⟩

structure EntryInv1 (O : Oracle) (cfg : Config) (L : List GSet) (d : Bytes) (st : VState) : Prop where
  sigs : ∀ q ∈ st.signatures, O.recover d q.2 = some q.1
  snap : ∀ g, st.gs = some g → g ∈ L
  our : ∀ v, st.ourVAA = some v →
          O.digestOf v.body = d ∧ ∃ g, st.gs = some g ∧ (¬ isGov cfg v.body → v.gsIndex = g.index)

theorem entryInv1_of_mem (h : Inv1 O cfg L s)
    {d : Bytes} {st : VState} (hm : (d, st) ∈ s.agg) : EntryInv1 O cfg L d st :=
  ⟨h.sigs _ hm, h.snap _ hm, h.our _ hm⟩

theorem EntryInv1.submitted {d : Bytes} {st : VState} (h : EntryInv1 O cfg L d st) (b : Bool) :
    EntryInv1 O cfg L d { st with submitted := b } :=
  ⟨h.sigs, h.snap, h.our⟩

theorem entryInv1_entryOrFresh (h : Inv1 O cfg L s)
    (d : Bytes) (now : Int) : EntryInv1 O cfg L d (entryOrFresh s d now) := by
  unfold entryOrFresh
  split
  · next st hl => exact entryInv1_of_mem h (List.mem_of_lookup_eq_some hl)
  · exact ⟨fun _ => nofun, nofun, nofun⟩

theorem inv1_of_entries {s' : PState} (h : Inv1 O cfg L s) (hgs : s'.gs = s.gs) (hdb : s'.db = s.db)
    (he : ∀ p ∈ s'.agg, EntryInv1 O cfg L p.1 p.2) : Inv1 O cfg L s' :=
  ⟨hgs ▸ h.cur, fun p hp => (he p hp).sigs, fun p hp => (he p hp).snap, fun p hp => (he p hp).our, hdb ▸ h.db⟩

theorem inv1_insert_agg (h : Inv1 O cfg L s)
    {d : Bytes} {st : VState} (hst : EntryInv1 O cfg L d st) :
    Inv1 O cfg L { s with agg := alInsert d st s.agg } :=
  inv1_of_entries h rfl rfl (forall_mem_alInsert hst fun _ => entryInv1_of_mem h)

theorem inv1_insert_db (h : Inv1 O cfg L s)
    (v : Vaa) (g : GSet) (hg : g ∈ L) (hgood : Good O g v) :
    Inv1 O cfg L { s with db := alInsert v.body.id (marshal v) s.db } :=
  ⟨h.cur, h.sigs, h.snap, h.our, forall_mem_alInsert ⟨v, g, rfl, rfl, hg, hgood⟩ h.db⟩

/-- `hidx`: a chain message names the current set; for an injected governance VAA the hypothesis is void. -/
theorem signBroadcast_inv1 (h : Inv1 O cfg L s)
    {v : Vaa} {tx : Bytes} {now : Int} {g : GSet} (hg : s.gs = some g) (hidx : ¬ isGov cfg v.body → v.gsIndex = g.index)
    {s' : PState} {outs : List Out} (hr : signBroadcast O cfg s v tx now = .ok s' outs) : Inv1 O cfg L s' := by
  -- the panic outcome contradicts `hr`, the other one fixes `s'`
  rcases signBroadcast_cases O cfg s v tx now with ⟨_, e⟩ | ⟨sig, _, e⟩ <;> cases e.symm.trans hr
  refine inv1_insert_agg h ⟨(entryInv1_entryOrFresh h (O.digestOf v.body) now).sigs, h.cur, fun v' hv' => ?_⟩
  cases hv'
  exact ⟨rfl, g, hg, hidx⟩

theorem handleMessage_inv1 (h : Inv1 O cfg L s)
    (m : Msg) (now : Int) {s' : PState} {outs : List Out} (hr : handleMessage O cfg s m now = .ok s' outs) :
    Inv1 O cfg L s' := by
  rcases handleMessage_cases O cfg s m now with e | ⟨g, hg, e⟩ <;> rw [e] at hr
  · cases hr; exact h
  · exact signBroadcast_inv1 h hg (fun _ => rfl) hr

theorem handleInjection_inv1 (h : Inv1 O cfg L s)
    (v : Vaa) (hgov : isGov cfg v.body) (now : Int) {s' : PState} {outs : List Out}
    (hr : handleInjection O cfg s v now = .ok s' outs) : Inv1 O cfg L s' := by
  rcases handleInjection_cases O cfg s v now with e | ⟨g, hg, e⟩ <;> rw [e] at hr
  · cases hr; exact h
  · exact signBroadcast_inv1 h hg (fun hn => absurd hgov hn) hr

theorem handleInbound_inv1 (h : Inv1 O cfg L s)
    (bytes : Bytes) {s' : PState} {outs : List Out} (hr : handleInbound O s bytes = .ok s' outs) :
    Inv1 O cfg L s' ∧ outs = [] ∧
    -- an already stored VAA is never replaced by a peer's copy
    (∀ id b, s.db.lookup id = some b → s'.db.lookup id = some b) ∧
    -- whatever was stored is a quorum-signed VAA verifiable against the current set
    (s'.db = s.db ∨ ∃ v g, unmarshal bytes = some v ∧ s.gs = some g ∧ Good O g v ∧
        s.db.lookup v.body.id = none ∧ s'.db = alInsert v.body.id (marshal v) s.db) := by
  rcases handleInbound_cases O s bytes with e | ⟨v, g, hv, hg, hver, hq, hnone, e⟩ <;> cases e.symm.trans hr
  · exact ⟨h, rfl, fun _ _ x => x, .inl rfl⟩
  · refine ⟨inv1_insert_db h v g (h.cur g hg) ⟨hver, hq⟩, rfl, ?_, .inr ⟨v, g, hv, hg, ⟨hver, hq⟩, hnone, rfl⟩⟩
    intro id b hl
    by_cases hid : id = v.body.id
    · rw [hid, hnone] at hl  -- the new id has no stored VAA
      cases hl
    · exact (lookup_alInsert_of_ne hid).trans hl

theorem gateSet_mem (h : Inv1 O cfg L s)
    {d : Bytes} {gs : GSet} (hg : gateSet s d = some gs) : gs ∈ L := by
  rw [gateSet_eq_settleGs s d 0, settleGs] at hg
  split at hg
  · next g hsnap =>  -- the entry's snapshot
    cases hg
    exact (entryInv1_entryOrFresh h d 0).snap gs hsnap
  · exact h.cur _ hg  -- no snapshot: the current set

theorem obsFinish_inv1 (h : Inv1 O cfg L s)
    (d : Bytes) (gs : GSet) (hgs : gs ∈ L) (hok : GSetOk gs) {st1 : VState} (hst : EntryInv1 O cfg L d st1)
    (hsnap : ∀ g', st1.gs = some g' → gs = g')
    {s' : PState} {outs : List Out} (hr : obsFinish s d gs st1 = .ok s' outs) :
    Inv1 O cfg L s' ∧
    ∀ b, Out.vaa b ∈ outs → ∃ v, b = marshal v ∧ Good O gs v ∧ (¬ isGov cfg v.body → v.gsIndex = gs.index) ∧
      s'.db = alInsert v.body.id b s.db ∧ ∃ v0, st1.ourVAA = some v0 ∧ v.body = v0.body ∧ st1.gs = some gs := by
  rcases obsFinish_cases d gs st1 with ⟨_, e⟩ | ⟨_, e⟩ | ⟨v, hv, hq, _, e⟩ <;> cases (e s).symm.trans hr
  · exact ⟨inv1_insert_agg h hst, fun _ => nofun⟩  -- only the entry is filed
  · -- quorum: `v` with the assembled signatures is stored and broadcast
    obtain ⟨hd, g', hg', hidx⟩ := hst.our v hv
    cases hsnap g' hg'
    have hgood : Good O gs { v with sigs := assemble gs.keys st1.signatures } := by
      refine ⟨?_, hq⟩
      rw [show O.digestOf v.body = d from hd]  -- the recorded signatures are over the key `d` of the entry
      exact (C06.verify_iff _ _ _).2 (assemble_valid _ gs hok _ hst.sigs)
    refine ⟨inv1_insert_agg (inv1_insert_db h _ gs hgs hgood) (hst.submitted true), ?_⟩
    intro b hb
    cases List.mem_singleton.1 hb
    exact ⟨_, rfl, hgood, hidx, rfl, v, hv, rfl, hg'⟩

theorem handleObservation_inv1 (hL : ∀ g ∈ L, GSetOk g)
    (h : Inv1 O cfg L s) (o : Obs) (now : Int) {s' : PState} {outs : List Out}
    (hr : handleObservation O s o now = .ok s' outs) :
    Inv1 O cfg L s' ∧
    ∀ b, Out.vaa b ∈ outs → ∃ v g, b = marshal v ∧ g ∈ L ∧ Good O g v ∧
      -- g is the snapshot taken when the node observed the message, and (chain messages) the set the VAA names
      (∃ st, s.agg.lookup o.hash = some st ∧ st.gs = some g ∧ ∃ v0, st.ourVAA = some v0 ∧ v.body = v0.body) ∧
      (¬ isGov cfg v.body → v.gsIndex = g.index) ∧ s'.db = alInsert v.body.id b s.db := by
  rcases handleObservation_cases O s o now with ⟨_, e⟩ | ⟨gs, hg, hrec, _, e⟩ <;> rw [e] at hr
  · cases hr; exact ⟨h, fun _ => nofun⟩
  · have he := entryInv1_entryOrFresh h o.hash now
    have hst1 : EntryInv1 O cfg L o.hash (recordSig (entryOrFresh s o.hash now) (bytesToAddress o.addr) o.sig) :=
      ⟨forall_mem_alInsert hrec he.sigs, he.snap, he.our⟩
    have hmem := gateSet_mem h hg
    obtain ⟨hinv, hpub⟩ := obsFinish_inv1 h o.hash gs hmem (hL gs hmem) hst1
      (fun g' hg' => gateSet_eq_snap now hg hg') hr
    refine ⟨hinv, ?_⟩
    intro b hb
    obtain ⟨v, hbv, hgood, hidx, hdb, v0, hv0, hbody, hsg⟩ := hpub b hb
    refine ⟨v, gs, hbv, hmem, hgood, ?_, hidx, hdb⟩
    -- the published body is the node's own observation, filed under this digest with this snapshot
    rw [recordSig_ourVAA] at hv0
    rw [recordSig_gs] at hsg
    obtain ⟨st, hl, e⟩ := entryOrFresh_of_ourVAA hv0
    rw [e] at hv0 hsg
    exact ⟨st, hl, hsg, v0, hv0, hbody⟩

theorem handleCleanup_inv1 (h : Inv1 O cfg L s)
    {now : Int} {room : Nat} {s' : PState} {outs : List Out} (hr : handleCleanup s now room = .ok s' outs) :
    Inv1 O cfg L s' := by
  obtain ⟨agg', hc, rfl⟩ := handleCleanup_ok_iff.1 hr
  refine inv1_of_entries h rfl rfl (cleanupAll_lift (P := EntryInv1 O cfg L) (Q := fun _ => True) ?_ hc).1
  intro d st r st' o hm hk
  obtain ⟨_, _, _, rfl⟩ := cleanupEntry_keep_eq_with hk
  have hst := entryInv1_of_mem h hm
  exact ⟨⟨hst.sigs, hst.snap, hst.our⟩, fun _ _ => trivial⟩

end

/-- What C01 demands of a published VAA (`b` = the bytes broadcast or stored). -/
def PublishedGood (O : Oracle) (L : List GSet) (b : Bytes) : Prop :=
  ∃ v g, b = marshal v ∧ g ∈ L ∧ Good O g v

/-- The sets learned from chain after an event. -/
def learn (L : List GSet) : Event → List GSet
  | .setUpdate g => g :: L
  | _ => L

def learnAll (L : List GSet) : List Event → List GSet
  | [] => L
  | e :: es => learnAll (learn L e) es

/-- Hypotheses on the environment, per event: sets delivered by the chain watcher have distinct keys (≤ 256), and
injected VAAs come from the governance emitter (the only thing the admin RPC injects). -/
def EventOk (cfg : Config) : Event → Prop
  | .setUpdate g => GSetOk g
  | .injection v _ => isGov cfg v.body
  | _ => True

/-- **One step preserves the C01 invariant, and everything it broadcasts as complete is `PublishedGood`.** -/
theorem step_inv1 {O : Oracle} {cfg : Config} {L : List GSet} (hL : ∀ g ∈ L, GSetOk g) {s : PState}
    (h : Inv1 O cfg L s) (e : Event) (he : EventOk cfg e) (s' : PState) (outs : List Out)
    (hr : step O cfg s e = .ok s' outs) :
    Inv1 O cfg (learn L e) s' ∧ (∀ g ∈ learn L e, GSetOk g) ∧ ∀ b, Out.vaa b ∈ outs → PublishedGood O (learn L e) b := by
  have quiet : (∀ o now, e ≠ .observation o now) → ∀ b, Out.vaa b ∈ outs → PublishedGood O (learn L e) b :=
    fun hobs b hb => absurd hb (step_no_vaa_of_not_observation hr hobs b)
  cases e with
  | setUpdate g =>
    cases hr
    refine ⟨?_, ?_, quiet nofun⟩
    · have := inv1_mono (L' := g :: L) h fun x hx => List.mem_cons_of_mem _ hx
      exact ⟨fun g' hg' => by cases hg'; exact List.mem_cons_self, this.sigs, this.snap, this.our, this.db⟩
    · exact List.forall_mem_cons.2 ⟨he, hL⟩
  | message m now => exact ⟨handleMessage_inv1 h m now hr, hL, quiet nofun⟩
  | injection v now => exact ⟨handleInjection_inv1 h v he now hr, hL, quiet nofun⟩
  | observation o now =>
    obtain ⟨a, b⟩ := handleObservation_inv1 hL h o now hr
    refine ⟨a, hL, fun x hx => ?_⟩
    obtain ⟨v, g, e1, e2, e3, _⟩ := b x hx
    exact ⟨v, g, e1, e2, e3⟩
  | inbound bytes => exact ⟨(handleInbound_inv1 h bytes hr).1, hL, quiet nofun⟩
  | cleanup now room => exact ⟨handleCleanup_inv1 h hr, hL, quiet nofun⟩

theorem learn_sub (L : List GSet) (e : Event) : ∀ g ∈ L, g ∈ learn L e := by
  intro g hg
  cases e <;> simp [learn, hg]

theorem learnAll_sub : ∀ (es : List Event) (L : List GSet), ∀ g ∈ L, g ∈ learnAll L es := by
  intro es
  induction es with
  | nil => intro L g hg; exact hg
  | cons e es ih => intro L g hg; exact ih _ g (learn_sub L e g hg)

theorem publishedGood_mono {O : Oracle} {L L' : List GSet} {b : Bytes} (h : PublishedGood O L b)
    (hsub : ∀ g ∈ L, g ∈ L') : PublishedGood O L' b := by
  obtain ⟨v, g, a, c, d⟩ := h
  exact ⟨v, g, a, hsub g c, d⟩

/-- **Every run**: the invariant holds at the end and every `SignedVAAWithQuorum` ever broadcast is `PublishedGood`. -/
theorem run_inv1 {O : Oracle} {cfg : Config} : ∀ (es : List Event) (L : List GSet) (s : PState),
    (∀ g ∈ L, GSetOk g) → Inv1 O cfg L s → (∀ e ∈ es, EventOk cfg e) →
    ∀ sf outs, run O cfg s es = .ok (sf, outs) →
      Inv1 O cfg (learnAll L es) sf ∧ ∀ os ∈ outs, ∀ b, Out.vaa b ∈ os → PublishedGood O (learnAll L es) b := by
  intro es
  induction es with
  | nil =>
    intro L s _ h _ sf outs hr
    cases hr
    exact ⟨h, fun _ => nofun⟩
  | cons e es ih =>
    intro L s hL h hev sf outs hr
    obtain ⟨s', o, os, hs, hrest, rfl⟩ := run_cons_iff.1 hr
    obtain ⟨i1, i2, i3⟩ := step_inv1 hL h e (hev e List.mem_cons_self) s' o hs
    obtain ⟨j1, j2⟩ := ih (learn L e) s' i2 i1 (fun x hx => hev x (List.mem_cons_of_mem _ hx)) _ _ hrest
    refine ⟨j1, ?_⟩
    intro os' hos' b hb
    rcases List.mem_cons.1 hos' with rfl | hos'
    · exact publishedGood_mono (i3 b hb) (learnAll_sub es _)
    · exact j2 os' hos' b hb

end Whv.Proc
