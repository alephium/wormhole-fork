import Whv.Model.AlphUtil
/-!
# Lemmas about the `alphutil` model

Decimal numerals, hex and base58 each get one lemma about a digit character and one induction along the model's string
function; besides: slices and NUL trimming, `time.Unix`, the common shape of the narrowing converters, `big.Int.Bytes`.
-/

namespace List

theorem pairwise_lt_of_neighbours : ∀ {l : List Nat}, (l.zip l.tail).all (fun p => p.1 < p.2) = true → l.Pairwise (· < ·)
  | [], _ => .nil
  | [_], _ => pairwise_singleton _ _
  | a :: b :: t, h => by
    simp only [tail_cons, zip_cons_cons, all_cons, Bool.and_eq_true, decide_eq_true_eq] at h
    have ih := pairwise_lt_of_neighbours (l := b :: t) h.2
    refine pairwise_cons.2 ⟨fun c hc => ?_, ih⟩
    rcases mem_cons.1 hc with rfl | hc
    · exact h.1
    · exact Nat.lt_trans h.1 (rel_of_pairwise_cons ih hc)

variable {α : Type} [BEq α] [LawfulBEq α]

theorem takeWhile_dropWhile_replicate_append (a : α) (n : Nat) {l : List α} (h : l.head? ≠ some a) :
    (replicate n a ++ l).takeWhile (· == a) = replicate n a ∧ (replicate n a ++ l).dropWhile (· == a) = l := by
  have hd := dropWhile_beq_eq_self_of_head?_ne h
  have ht : l.takeWhile (· == a) = [] := by
    have := takeWhile_append_dropWhile (p := (· == a)) (l := l)
    rw [hd] at this
    exact append_left_eq_self.mp this
  rw [takeWhile_append_of_pos (by simp), dropWhile_append_of_pos (by simp), ht, hd, append_nil]
  exact ⟨rfl, rfl⟩

theorem replicate_append_dropWhile (a : α) (l : List α) :
    replicate (l.takeWhile (· == a)).length a ++ l.dropWhile (· == a) = l ∧ (l.dropWhile (· == a)).head? ≠ some a := by
  constructor
  · have h : l.takeWhile (· == a) = replicate (l.takeWhile (· == a)).length a :=
      eq_replicate_iff.2 ⟨rfl, fun c hc => by simpa using all_eq_true.1 all_takeWhile c hc⟩
    rw [← h, takeWhile_append_dropWhile]
  · intro e
    have := head?_dropWhile_not (· == a) l
    rw [e] at this
    simp at this                            -- `this` reduces to `(a == a) = false`

end List

namespace Whv.AlphUtil
open Whv

theorem isDigit_iff (c : UInt8) : isDigit c = true ↔ 48 ≤ c.toNat ∧ c.toNat ≤ 57 := by
  simp [isDigit]

theorem parseNat_of_digits {s : GoStr} (hne : s ≠ []) (hd : s.all isDigit = true) : parseNat s = some (digitsVal s) :=
  if_pos ⟨hne, hd⟩

theorem parseNat_some {s : GoStr} {n : Nat} (h : parseNat s = some n) : s ≠ [] ∧ s.all isDigit = true ∧ n = digitsVal s := by
  unfold parseNat at h
  split at h
  · next hc => cases h; exact ⟨hc.1, hc.2, rfl⟩
  · cases h

theorem parseInt_of_parseNat {s : GoStr} {n : Nat} (h : parseNat s = some n) : parseInt s = some (n : Int) := by
  obtain ⟨hne, hd, _⟩ := parseNat_some h
  cases s with
  | nil => exact absurd rfl hne
  | cons c rest =>
    have hc := (isDigit_iff c).1 (List.all_eq_true.mp hd c List.mem_cons_self)
    rw [parseInt, if_neg (by omega), if_neg (by omega), h]
    rfl

/-- Whatever `SetString` accepts is a sign followed by a digit string, and the value is the signed number it spells. -/
theorem parseInt_some {s : GoStr} {v : Int} (h : parseInt s = some v) :
    (∃ n, parseNat s = some n ∧ v = n) ∨
    (∃ c rest n, s = c :: rest ∧ c.toNat = 43 ∧ parseNat rest = some n ∧ v = n) ∨
    (∃ c rest n, s = c :: rest ∧ c.toNat = 45 ∧ parseNat rest = some n ∧ v = -(n : Int)) := by
  unfold parseInt at h
  cases s with
  | nil => cases h
  | cons c rest =>
    dsimp only at h
    split at h
    · next h45 =>
      obtain ⟨n, hp, rfl⟩ := Option.map_eq_some_iff.1 h
      exact .inr (.inr ⟨c, rest, n, rfl, h45, hp, rfl⟩)
    split at h
    · next h43 =>
      obtain ⟨n, hp, rfl⟩ := Option.map_eq_some_iff.1 h
      exact .inr (.inl ⟨c, rest, n, rfl, h43, hp, rfl⟩)
    · obtain ⟨n, hp, rfl⟩ := Option.map_eq_some_iff.1 h
      exact .inl ⟨n, hp, rfl⟩

theorem parseNat_none_of_nondigit {s : GoStr} {c : UInt8} (hc : c ∈ s) (hn : isDigit c = false) : parseNat s = none :=
  if_neg fun h => by
    have := List.all_eq_true.mp h.2 c hc
    rw [hn] at this; cases this

theorem digitsVal_append_singleton (ds : Bytes) (c : UInt8) : digitsVal (ds ++ [c]) = digitsVal ds * 10 + (c.toNat - 48) := by
  simp [digitsVal, List.foldl_append]

private theorem decDigit {d : Nat} (h : d < 10) :
    isDigit (UInt8.ofNat (48 + d)) = true ∧ (UInt8.ofNat (48 + d)).toNat - 48 = d ∧ (UInt8.ofNat (48 + d) = 48 → d = 0) := by
  have e : (UInt8.ofNat (48 + d)).toNat = 48 + d := by rw [UInt8.toNat_ofNat']; omega
  refine ⟨(isDigit_iff _).2 (by omega), by omega, fun hc => ?_⟩
  rw [hc] at e
  exact Nat.add_left_cancel (n := 48) e.symm

private theorem decDigits_spec (fuel n : Nat) (hf : n < fuel) :
    (decDigits fuel n).all isDigit = true ∧ digitsVal (decDigits fuel n) = n ∧
    ∃ c t, decDigits fuel n = c :: t ∧ (0 < n → c ≠ 48) := by
  fun_induction decDigits fuel n with
  | case1 => omega                       -- no fuel
  | case2 fuel n h =>                     -- `n < 10`: one digit
    obtain ⟨h1, h2, h3⟩ := decDigit h
    exact ⟨by rw [List.all_cons, h1]; rfl, by rw [digitsVal, List.foldl_cons, Nat.zero_mul, Nat.zero_add]; exact h2, _, _, rfl,
      fun hn hc => Nat.ne_of_gt hn (h3 hc)⟩
  | case3 fuel n h ih =>                  -- the digits of `n / 10`, then `n % 10`
    obtain ⟨h1, h2, c, t, h3, h4⟩ := ih (by omega)
    obtain ⟨d1, d2, _⟩ := decDigit (Nat.mod_lt n (by decide : 0 < 10))
    refine ⟨?_, ?_, c, t ++ _, by rw [h3]; rfl, fun _ => h4 (by omega)⟩
    · rw [List.all_append, h1, List.all_cons, d1]; rfl
    · rw [digitsVal_append_singleton, h2, d2]; omega

theorem decBytes_spec (n : Nat) : decBytes n ≠ [] ∧ (decBytes n).all isDigit = true ∧ digitsVal (decBytes n) = n := by
  obtain ⟨h1, h2, c, t, h3, _⟩ := decDigits_spec (n + 1) n (by omega)
  exact ⟨by rw [decBytes, h3]; exact List.cons_ne_nil _ _, h1, h2⟩

theorem isCanonicalNumeral_decBytes (n : Nat) : isCanonicalNumeral (decBytes n) = true := by
  obtain ⟨h1, _, c, t, h3, h4⟩ := decDigits_spec (n + 1) n (by omega)
  rw [decBytes, isCanonicalNumeral, h1, h3]
  by_cases hz : n = 0
  · subst hz; cases h3; rfl                 -- "0": a single character
  · simp [h4 (by omega)]                    -- the first digit is not '0'

theorem parseNat_decBytes (n : Nat) : parseNat (decBytes n) = some n := by
  obtain ⟨h1, h2, h3⟩ := decBytes_spec n
  rw [parseNat_of_digits h1 h2, h3]

theorem parseInt_decBytes (n : Nat) : parseInt (decBytes n) = some (n : Int) :=
  parseInt_of_parseNat (parseNat_decBytes n)

theorem encodeHex_cons (b : UInt8) (bs : Bytes) :
    encodeHex (b :: bs) = hexDigit (b.toNat / 16) :: hexDigit (b.toNat % 16) :: encodeHex bs := rfl

theorem hexVal_hexDigit {n : Nat} (h : n < 16) : hexVal (hexDigit n) = some n := by
  have : ∀ n, n < 16 → hexVal (hexDigit n) = some n := by decide +kernel
  exact this n h

theorem isLowerHex_encodeHex (bs : Bytes) : isLowerHex (encodeHex bs) = true := by
  have hd : ∀ n, n < 16 → ((hexVal (hexDigit n)).isSome && !(decide (65 ≤ (hexDigit n).toNat) && decide ((hexDigit n).toNat ≤ 70))) = true := by
    decide +kernel
  unfold isLowerHex encodeHex
  rw [List.all_flatMap]
  apply List.all_eq_true.mpr
  intro b _
  have hb : b.toNat < 256 := b.toNat_lt
  simp only [List.all_cons, List.all_nil, Bool.and_true]
  rw [hd _ (by omega), hd _ (by omega)]
  rfl

theorem decodeHex_encodeHex (bs : Bytes) : decodeHex (encodeHex bs) = (bs, none) := by
  induction bs with
  | nil => rfl
  | cons b bs ih =>
    have hb : b.toNat < 256 := b.toNat_lt
    rw [encodeHex_cons, decodeHex, hexVal_hexDigit (by omega), hexVal_hexDigit (by omega), ih]
    dsimp only
    rw [show b.toNat / 16 * 16 + b.toNat % 16 = b.toNat by omega, UInt8.ofNat_toNat]

theorem encodeHex_length (bs : Bytes) : (encodeHex bs).length = 2 * bs.length := by
  induction bs with
  | nil => rfl
  | cons b bs ih => rw [encodeHex_cons, List.length_cons, List.length_cons, List.length_cons, ih]; omega

theorem hexDigit_hexVal {c : UInt8} {x : Nat} (h : hexVal c = some x) :
    x < 16 ∧ hexDigit x = if 65 ≤ c.toNat ∧ c.toNat ≤ 70 then UInt8.ofNat (c.toNat + 32) else c := by
  have hc : UInt8.ofNat c.toNat = c := UInt8.ofNat_toNat
  unfold hexVal at h
  unfold hexDigit
  generalize c.toNat = n at *
  by_cases h09 : 48 ≤ n ∧ n ≤ 57
  · rw [if_pos h09] at h
    cases h
    rw [if_pos (by omega), if_neg (by omega), Nat.add_sub_cancel' h09.1, hc]
    exact ⟨by omega, rfl⟩
  rw [if_neg h09] at h
  by_cases haf : 97 ≤ n ∧ n ≤ 102
  · rw [if_pos haf] at h
    cases h
    rw [if_neg (by omega), if_neg (by omega), Nat.add_sub_cancel' (by omega), hc]
    exact ⟨by omega, rfl⟩
  rw [if_neg haf] at h
  by_cases hAF : 65 ≤ n ∧ n ≤ 70
  · rw [if_pos hAF] at h
    cases h
    rw [if_neg (by omega), if_pos hAF, show 87 + (n - 55) = n + 32 by omega]
    exact ⟨by omega, rfl⟩
  · rw [if_neg hAF] at h
    cases h

theorem encodeHex_of_decodeHex {s : GoStr} {bs : Bytes} (h : decodeHex s = (bs, none)) : encodeHex bs = lowerHex s := by
  fun_induction decodeHex s generalizing bs with
  | case1 => cases h; rfl
  | case2 | case3 | case5 => cases h       -- a single character, or a pair with a non-hex character: an error
  | case4 a b rest x y hy hx r =>          -- two hex digits `a b`, then `rest`
    rename_i ih                            -- (the pattern's last slot goes to the `let r`, not to the hypothesis)
    obtain ⟨rfl, hr⟩ := Prod.mk.inj h
    obtain ⟨hxl, hx'⟩ := hexDigit_hexVal hx
    obtain ⟨hyl, hy'⟩ := hexDigit_hexVal hy
    rw [encodeHex_cons, UInt8.toNat_ofNat', Nat.mod_eq_of_lt (by omega), show (x * 16 + y) / 16 = x by omega,
      show (x * 16 + y) % 16 = y by omega, hx', hy', ih (Prod.ext rfl hr)]
    rfl

theorem decodeHex_length {s : GoStr} {bs : Bytes} (h : decodeHex s = (bs, none)) : s.length = 2 * bs.length := by
  rw [← encodeHex_length, encodeHex_of_decodeHex h, lowerHex, List.length_map]

theorem hexToFixedSizeBytes_encodeHex (b : Bytes) : hexToFixedSizeBytes (encodeHex b) b.length = .ok b := by
  rw [hexToFixedSizeBytes, if_neg (by rw [encodeHex_length]; omega), decodeHex_encodeHex]

theorem hexToFixedSizeBytes_ok {s : GoStr} {n : Nat} {b : Bytes} (h : hexToFixedSizeBytes s n = .ok b) :
    s.length = n * 2 ∧ b.length = n ∧ encodeHex b = lowerHex s := by
  unfold hexToFixedSizeBytes at h
  split at h
  · cases h                                 -- wrong length
  · next hl =>
    split at h                              -- on the decoder's answer
    · next r hd =>
      cases h
      have := decodeHex_length hd
      exact ⟨by omega, by omega, encodeHex_of_decodeHex hd⟩
    · cases h
    · cases h

theorem slice_mid (pre mid post : Bytes) (a b : Nat) (ha : pre.length = a) (hb : mid.length = b - a) :
    slice (pre ++ (mid ++ post)) a b = mid := by
  subst ha
  simp [slice, ← hb]

/-- What `parseAttestToken` reads from a payload laid out as the contract lays it out (`attestLayout`), whatever the
payload id and the chain bytes are. -/
theorem parseAttestToken_fields {pid tokenId chain dec symbol name : Bytes} (h0 : pid.length = 1) (h1 : tokenId.length = 32)
    (h2 : chain.length = 2) (h3 : dec.length = 1) (h4 : symbol.length = 32) (h5 : name.length = 32) :
    parseAttestToken (pid ++ tokenId ++ chain ++ dec ++ symbol ++ name) =
      if unbe chain ≠ 255 then .error .attestChain
      else .ok { tokenId := tokenId, decimals := unbe dec, symbol := trimNul symbol, name := trimNul name } := by
  have s1 := slice_mid pid tokenId (chain ++ dec ++ symbol ++ name) 1 33 h0 h1
  have s2 := slice_mid (pid ++ tokenId) chain (dec ++ symbol ++ name) 33 35 (by simp [h0, h1]) h2
  have s3 := slice_mid (pid ++ tokenId ++ chain) dec (symbol ++ name) 35 36 (by simp [h0, h1, h2]) h3
  have s4 := slice_mid (pid ++ tokenId ++ chain ++ dec) symbol name 36 68 (by simp [h0, h1, h2, h3]) h4
  have s5 := slice_mid (pid ++ tokenId ++ chain ++ dec ++ symbol) name [] 68 100 (by simp [h0, h1, h2, h3, h4]) h5
  -- one bracketing of the payload, in the slices and in the goal
  simp only [List.append_assoc, List.append_nil] at s1 s2 s3 s4 s5 ⊢
  unfold parseAttestToken
  rw [if_neg (by simp [h0, h1, h2, h3, h4, h5, attestTokenPayloadLength])]
  simp only [s1, s2, s3, s4, s5, chainIDAlephium]

theorem trimNul_padded (a b : Nat) {s : Bytes} (hh : s.head? ≠ some 0) (hl : s.getLast? ≠ some 0) :
    trimNul (List.replicate a 0 ++ s ++ List.replicate b 0) = s := by
  cases s with
  | nil => simp [trimNul]
  | cons d t =>
    have h1 : (d :: t ++ List.replicate b 0).head? ≠ some 0 := hh
    rw [trimNul, List.append_assoc, (List.takeWhile_dropWhile_replicate_append 0 a h1).2, List.reverse_append, List.reverse_replicate,
      (List.takeWhile_dropWhile_replicate_append 0 b (by rwa [List.head?_reverse])).2, List.reverse_reverse]

theorem goUnix_spec (sec nsec : Int) :
    (goUnix sec nsec).1 * 1000000000 + (goUnix sec nsec).2 = sec * 1000000000 + nsec ∧
    0 ≤ (goUnix sec nsec).2 ∧ (goUnix sec nsec).2 < 1000000000 := by
  have h1 := Int.lt_tmod_of_pos nsec (b := 1000000000) (by decide)
  have h2 := Int.tmod_lt_of_pos nsec (b := 1000000000) (by decide)
  -- the truncated remainder `nsec - 10⁹ * n` (`n = nsec.tdiv 10⁹`) lies strictly between `±10⁹`; the rest is linear in `n`
  rw [Int.tmod_def] at h1 h2
  unfold goUnix
  split
  · dsimp only
    split <;> dsimp only <;> omega
  · dsimp only; omega

theorem toMessagePublication_time (w : Msg) (ts : Int) :
    (toMessagePublication w ts).unixMilli = ts ∧ 0 ≤ (toMessagePublication w ts).nsec ∧
    (toMessagePublication w ts).nsec < 1000000000 ∧ (toMessagePublication w ts).nsec % 1000000 = 0 := by
  have h := goUnix_spec (Int.tdiv ts 1000) (Int.tmod ts 1000 * 1000000)
  have hts := Int.tdiv_mul_add_tmod ts 1000
  simp only [toMessagePublication, Pub.unixMilli]
  -- by `h` seconds and nanoseconds make up `ts.tdiv 1000 * 10⁹ + ts.tmod 1000 * 10⁶`, which by `hts` is `ts * 10⁶`
  omega

theorem isUint64_natCast (k : Nat) : isUint64 (k : Int) = decide (k < 2 ^ 64) := by
  have h64 : (2 : Int) ^ 64 = ((2 ^ 64 : Nat) : Int) := by decide
  simp only [isUint64, Int.natCast_nonneg, decide_true, Bool.true_and, h64, Int.ofNat_lt]

theorem uint64Of_natCast {k : Nat} (h : k < 2 ^ 64) : uint64Of (k : Int) = k := Nat.mod_eq_of_lt h

/-- The shape the three narrowing converters share: the Go test `v.IsUint64() && v.Uint64() <= max`, then the cast to `w` bits. -/
def toUintUpTo (max w : Nat) (err : Err) (f : Val) : R Nat :=
  match toU256 f with
  | .error e => .error e
  | .ok v => if isUint64 v && decide (uint64Of v ≤ max) then .ok (uint64Of v % 2 ^ w) else .error err

theorem toUint8_eq (f : Val) : toUint8 f = toUintUpTo 255 8 .uint8 f := rfl

theorem toUint16_eq (f : Val) : toUint16 f = toUintUpTo 65535 16 .uint16 f := rfl

/-- `toUint64` has no second test and no cast: both are idle at the bounds of `uint64` itself. -/
theorem toUint64_eq (f : Val) : toUint64 f = toUintUpTo (2 ^ 64 - 1) 64 .uint64 f := by
  unfold toUint64 toUintUpTo
  cases toU256 f with
  | error e => rfl
  | ok v =>
    have h : uint64Of v < 2 ^ 64 := Nat.mod_lt _ (by decide)
    simp only [Nat.mod_eq_of_lt h, show uint64Of v ≤ 2 ^ 64 - 1 by omega, decide_true, Bool.and_true]

section
variable {max w : Nat} {err : Err} {f : Val} (hmax : max < 2 ^ 64) (hw : max < 2 ^ w)
include hmax hw

/-- With `max` within both `uint64` and the `w` bits nothing wraps: an integer in `0 … max` is returned as it is, any
other is the converter's own error. -/
theorem toUintUpTo_of_ok {v : Int} (h : toU256 f = .ok v) :
    toUintUpTo max w err f = if 0 ≤ v ∧ v ≤ max then .ok v.toNat else .error err := by
  unfold toUintUpTo
  rw [h]
  dsimp only
  cases v with
  | negSucc k => rw [if_neg (by simp [isUint64]), if_neg (by omega)]
  | ofNat k =>
    simp only [Int.ofNat_eq_natCast, isUint64_natCast, Int.natCast_nonneg, Int.toNat_natCast, Int.ofNat_le, true_and]
    by_cases hk : k < 2 ^ 64
    · simp only [uint64Of_natCast hk, hk, decide_true, Bool.true_and, decide_eq_true_eq]
      split
      · rw [Nat.mod_eq_of_lt (by omega)]
      · rfl
    · rw [if_neg (by simp [hk]), if_neg (by omega)]

theorem toUintUpTo_ok_iff {n : Nat} : toUintUpTo max w err f = .ok n ↔ toU256 f = .ok (n : Int) ∧ n ≤ max := by
  cases h : toU256 f with
  | error e => simp [toUintUpTo, h]
  | ok v =>
    rw [toUintUpTo_of_ok hmax hw h]
    split <;> simp only [Except.ok.injEq, reduceCtorEq, false_iff] <;> omega

theorem toUintUpTo_rejects {v : Int} (h : toU256 f = .ok v) (hv : v < 0 ∨ max < v) : toUintUpTo max w err f = .error err := by
  rw [toUintUpTo_of_ok hmax hw h, if_neg (by omega)]

end

theorem natBytesF_zero (fuel : Nat) : natBytesF fuel 0 = [] := by
  cases fuel <;> simp [natBytesF]

theorem unbe_pos_of_head {bs : Bytes} (hne : bs ≠ []) (hh : bs.head? ≠ some 0) : 0 < unbe bs := by
  induction bs using snoc_induction with
  | hnil => exact absurd rfl hne
  | hsnoc bs x ih =>
    rw [unbe_append_singleton]
    cases bs with
    | nil =>
      have : x.toNat ≠ 0 := fun h0 => hh (congrArg some (UInt8.toNat_inj.mp h0))
      rw [unbe_nil]; omega
    | cons a r => have := ih (List.cons_ne_nil _ _) hh; omega

theorem natBytesF_unbe (bs : Bytes) : ∀ fuel, bs.head? ≠ some 0 → unbe bs ≤ fuel → natBytesF fuel (unbe bs) = bs := by
  induction bs using snoc_induction with
  | hnil => intro fuel _ _; exact natBytesF_zero fuel
  | hsnoc bs x ih =>
    intro fuel hh hf
    have hx : x.toNat < 256 := x.toNat_lt
    have hpos := unbe_pos_of_head (by simp) hh
    rw [unbe_append_singleton] at hf hpos ⊢
    cases fuel with
    | zero => omega
    | succ fuel =>
      rw [natBytesF, if_neg (by omega), show (unbe bs * 256 + x.toNat) / 256 = unbe bs by omega,
        show (unbe bs * 256 + x.toNat) % 256 = x.toNat by omega, UInt8.ofNat_toNat, ih fuel ?_ (by omega)]
      cases bs with
      | nil => simp
      | cons a r => exact hh

/-- The alphabet is in ascending ASCII order, so no character occurs twice. -/
theorem b58Alphabet_nodup : b58Alphabet.Nodup :=
  (List.pairwise_lt_of_neighbours (l := b58Alphabet.map UInt8.toNat) (by decide +kernel)).of_map UInt8.toNat
    fun _ _ h e => Nat.lt_irrefl _ (e ▸ h)

theorem b58Alphabet_ascii : ∀ c ∈ b58Alphabet, c.toNat < 128 := by decide +kernel

theorem b58Char_eq {d : Nat} (h : d < 58) : b58Char d = b58Alphabet[d] := by
  rw [b58Char, List.getD_eq_getElem?_getD, List.getElem?_eq_getElem h, Option.getD_some]

theorem b58Char_mem {d : Nat} (h : d < 58) : b58Char d ∈ b58Alphabet := b58Char_eq h ▸ List.getElem_mem h

theorem idxOf_b58Char {d : Nat} (h : d < 58) : b58Alphabet.idxOf (b58Char d) = d := by
  rw [b58Char_eq h]; exact b58Alphabet_nodup.idxOf_getElem d h

/-- Only digit 0 is written `'1'`. -/
theorem b58Char_eq_one {d : Nat} (h : d < 58) (e : b58Char d = 49) : d = 0 := by
  have := idxOf_b58Char h
  rw [e, show b58Alphabet.idxOf 49 = 0 by decide] at this
  exact this.symm

/-- Horner step of the decoder on a character of the alphabet. -/
def b58Step (a : Nat) (c : UInt8) : Nat := a * 58 + b58Alphabet.idxOf c

def B58Valid (s : Bytes) : Prop := ∀ c ∈ s, c ∈ b58Alphabet

theorem b58Chunk_valid : ∀ (cs : Bytes) (acc : Nat), B58Valid cs → b58Chunk cs acc = some (some (cs.foldl b58Step acc))
  | [], acc, _ => rfl
  | c :: cs, acc, hv => by
    have hc := hv c List.mem_cons_self
    have hi : b58Index c = some (b58Alphabet.idxOf c) := if_pos (List.idxOf_lt_length_of_mem hc)
    simp only [b58Chunk, b58Alphabet_ascii c hc, hi, List.foldl_cons]
    exact b58Chunk_valid cs _ fun x hx => hv x (List.mem_cons_of_mem _ hx)

theorem foldl_b58Step_shift : ∀ (cs : Bytes) (acc : Nat), cs.foldl b58Step acc = acc * 58 ^ cs.length + cs.foldl b58Step 0
  | [], acc => by simp
  | c :: cs, acc => by
    simp only [List.foldl_cons, List.length_cons]
    rw [foldl_b58Step_shift cs (b58Step acc c), foldl_b58Step_shift cs (b58Step 0 c)]
    rw [b58Step, b58Step, Nat.zero_mul, Nat.zero_add, Nat.add_mul, Nat.pow_succ, Nat.mul_assoc, Nat.mul_comm 58, Nat.add_assoc]

theorem b58Chunks_valid : ∀ (fuel : Nat) (t : Bytes) (acc : Nat), t.length < fuel → B58Valid t →
    b58Chunks fuel t acc = some (some (t.foldl b58Step acc))
  | 0, t, acc, h, _ => by omega
  | fuel + 1, t, acc, hlen, hv => by
    unfold b58Chunks
    by_cases ht : t = []
    · subst ht; simp
    · rw [if_neg ht, b58Chunk_valid _ 0 fun c hc => hv c (List.mem_of_mem_take hc)]
      have hdl : (t.drop 10).length < fuel := by
        have : 0 < t.length := List.length_pos_iff.mpr ht
        simp only [List.length_drop]; omega
      dsimp only
      rw [b58Chunks_valid fuel (t.drop 10) _ hdl fun c hc => hv c (List.mem_of_mem_drop hc), ← foldl_b58Step_shift,
        ← List.foldl_append, List.take_append_drop]

/-- `'1'` (digit 0) in front does not change the decoded value. -/
theorem foldl_b58Step_ones (z : Nat) (rest : Bytes) :
    (List.replicate z (49 : UInt8) ++ rest).foldl b58Step 0 = rest.foldl b58Step 0 := by
  induction z with
  | zero => rfl
  | succ z ih => rw [List.replicate_succ, List.cons_append, List.foldl_cons, show b58Step 0 49 = 0 by decide, ih]

theorem digits58F_zero (fuel : Nat) : digits58F fuel 0 = [] := by
  cases fuel <;> simp [digits58F]

/-- The digit string the encoder writes for `n`: it is decoded to `n`, and does not start with `'1'` (digit 0). -/
theorem digits58F_spec (fuel n : Nat) (h : n ≤ fuel) :
    ((digits58F fuel n).reverse.map b58Char).foldl b58Step 0 = n ∧ B58Valid ((digits58F fuel n).reverse.map b58Char) ∧
    ((digits58F fuel n).reverse.map b58Char).head? ≠ some 49 := by
  fun_induction digits58F fuel n with
  | case1 n => exact ⟨by simp; omega, by simp [B58Valid], by simp⟩      -- no fuel, so `n = 0`
  | case2 fuel => exact ⟨rfl, by simp [B58Valid], by simp⟩             -- `n = 0`: no digits
  | case3 fuel n hn ih =>                                               -- digit `n % 58` below the digits of `n / 58`
    obtain ⟨h1, h2, h3⟩ := ih (by omega)
    have hd : n % 58 < 58 := Nat.mod_lt _ (by decide)
    simp only [List.reverse_cons, List.map_append, List.map_cons, List.map_nil]
    refine ⟨?_, ?_, ?_⟩
    · rw [List.foldl_append, h1, List.foldl_cons, List.foldl_nil, b58Step, idxOf_b58Char hd]; omega
    · intro c hc
      rcases List.mem_append.1 hc with hc | hc
      · exact h2 c hc
      · rw [List.mem_singleton.1 hc]; exact b58Char_mem hd
    · cases hr : (digits58F fuel (n / 58)).reverse.map b58Char with
      | nil =>
        -- no higher digits: `n / 58 = 0`, so the leading digit `n % 58` is `n ≠ 0`
        rw [hr] at h1
        intro e
        have := b58Char_eq_one hd (Option.some.inj e)
        have : 0 = n / 58 := h1
        omega
      | cons a t => rw [hr] at h3; exact h3

/-- **base58 round trip** (btcutil model): `Decode(Encode(b)) = b` for every byte string. -/
theorem b58Decode_b58Encode (b : Bytes) : b58Decode (b58Encode b) = .ok b := by
  -- `b` is `z` zero bytes followed by `b'` without leading zero; the encoder writes `z` times `'1'`, then the digits of `unbe b'`
  obtain ⟨hb, hh⟩ := List.replicate_append_dropWhile 0 b
  generalize (b.takeWhile (· == 0)).length = z at hb
  generalize b.dropWhile (· == 0) = b' at hb hh
  subst hb
  obtain ⟨hfold, hvalid, hhead⟩ := digits58F_spec (unbe b') (unbe b') (Nat.le_refl _)
  have henc : b58Encode (List.replicate z 0 ++ b') = List.replicate z 49 ++ (digits58F (unbe b') (unbe b')).reverse.map b58Char := by
    rw [b58Encode, leadingZeros, (List.takeWhile_dropWhile_replicate_append 0 z hh).1, List.length_replicate, unbe_zeros_append, digits58]
  have hv : B58Valid (List.replicate z 49 ++ (digits58F (unbe b') (unbe b')).reverse.map b58Char) := by
    intro c hc
    rcases List.mem_append.1 hc with hc | hc
    · rw [(List.mem_replicate.1 hc).2]; decide
    · exact hvalid c hc
  rw [henc, b58Decode, b58Chunks_valid _ _ 0 (by omega) hv, foldl_b58Step_ones, hfold, (List.takeWhile_dropWhile_replicate_append 49 z hhead).1,
    List.length_replicate]
  exact congrArg (fun t => B58Res.ok (List.replicate z 0 ++ t)) (natBytesF_unbe b' _ hh (Nat.le_refl _))

end Whv.AlphUtil
