import Whv.Lemmas.Processor
/-!
# Frame lemmas for the processor model: traffic about other messages does not disturb a message's aggregation

`Same d k s s'`: the two states agree on everything the handlers consult for digest `d` and store key `k` — the current guardian
set, the aggregation entry of `d`, the store entry under `k`.
* *Locality*: an event about `d` (an observation with hash `d`; a chain message whose digest is `d` and whose id is `k`) acts alike
  on `Same` states: same outputs, `Same` results, same panics.
* *Frame*: an event about something else (an observation for another digest, a chain message / injection with another digest and
  another id, an inbound VAA with another id) leaves a state `Same` to what it was, provided no other entry holds a VAA filed under `k` (`Sep`), which
  such events preserve.
-/
namespace Whv.Proc
open Whv

structure Same (d : Bytes) (k : VaaId) (s s' : PState) : Prop where
  gs : s.gs = s'.gs
  ent : s.agg.lookup d = s'.agg.lookup d
  db : s.db.lookup k = s'.db.lookup k

theorem Same.refl (d : Bytes) (k : VaaId) (s : PState) : Same d k s s := ⟨rfl, rfl, rfl⟩
theorem Same.symm {d : Bytes} {k : VaaId} {s s' : PState} (h : Same d k s s') : Same d k s' s := ⟨h.gs.symm, h.ent.symm, h.db.symm⟩
theorem Same.trans {d : Bytes} {k : VaaId} {s s' s'' : PState} (h : Same d k s s') (h' : Same d k s' s'') : Same d k s s'' :=
  ⟨h.gs.trans h'.gs, h.ent.trans h'.ent, h.db.trans h'.db⟩

def SameRes (d : Bytes) (k : VaaId) : Res → Res → Prop
  | .ok s1 o1, .ok s2 o2 => o1 = o2 ∧ Same d k s1 s2
  | .panic a, .panic b => a = b
  | _, _ => False

section
variable {d : Bytes} {k : VaaId} {s s' : PState}

theorem SameRes.ite {c : Prop} [Decidable c] {a a' b b' : Res} (h1 : SameRes d k a a') (h2 : SameRes d k b b') :
    SameRes d k (if c then a else b) (if c then a' else b') := by
  split <;> assumption

theorem entryOrFresh_same (h : Same d k s s') (now : Int) : entryOrFresh s d now = entryOrFresh s' d now := by
  unfold entryOrFresh; rw [h.ent]

theorem gateSet_same (h : Same d k s s') : gateSet s d = gateSet s' d := by
  unfold gateSet; rw [h.ent, h.gs]

theorem obsFinish_same (h : Same d k s s') (g : GSet) (st1 : VState) :
    SameRes d k (obsFinish s d g st1) (obsFinish s' d g st1) := by
  rcases obsFinish_cases d g st1 with ⟨_, e⟩ | ⟨_, e⟩ | ⟨v, _, _, _, e⟩ <;> rw [e s, e s']
  · exact rfl  -- the same panic
  · exact ⟨rfl, h.gs, by simp only [lookup_alInsert_self], h.db⟩  -- recorded
  · -- published: the same bytes are stored under the same key
    exact ⟨rfl, h.gs, by simp only [lookup_alInsert_self], by simp only [lookup_alInsert, h.db]⟩

theorem handleObservation_same (O : Oracle) (h : Same d k s s') (o : Obs) (now : Int)
    (ho : o.hash = d) : SameRes d k (handleObservation O s o now) (handleObservation O s' o now) := by
  subst ho
  cases hg : gateSet s o.hash with
  | none =>
    rw [handleObservation_of_gateSet_none O hg, handleObservation_of_gateSet_none O (gateSet_same h ▸ hg)]
    exact ⟨rfl, h⟩
  | some g =>
    rw [handleObservation_eq O hg, handleObservation_eq O (gateSet_same h ▸ hg), ← entryOrFresh_same h]
    exact .ite (obsFinish_same h g _) ⟨rfl, h⟩

theorem signBroadcast_same {O : Oracle} (cfg : Config) (h : Same d k s s') {v : Vaa}
    (hd : O.digestOf v.body = d) (tx : Bytes) (now : Int) :
    SameRes d k (signBroadcast O cfg s v tx now) (signBroadcast O cfg s' v tx now) := by
  unfold signBroadcast
  rw [hd]
  cases O.sign d with
  | none => exact rfl
  | some sig =>
    unfold broadcastSignature
    simp only
    rw [entryOrFresh_same h, h.gs]
    exact ⟨rfl, rfl, by simp only [lookup_alInsert_self], h.db⟩

/-- Locality for a chain message whose digest is `d` and whose store key is `k` (for every set index `i`: the body built from `m`
does not depend on it): whether it is signed depends on the current set and on what is stored under `k`, on which the two states
agree. -/
theorem handleMessage_same (O : Oracle) (cfg : Config) (h : Same d k s s') (m : Msg)
    (now : Int) (hd : ∀ i, O.digestOf (vaaOfMsg i m).body = d) (hk : ∀ i, (vaaOfMsg i m).body.id = k) :
    SameRes d k (handleMessage O cfg s m now) (handleMessage O cfg s' m now) := by
  have hp := fun i => signBroadcast_same cfg h (hd i) m.txHash now
  unfold signBroadcast at hp  -- the form in which `unfold handleMessage` shows its `proceed`
  unfold handleMessage
  rw [← h.gs]
  cases s.gs with
  | none => exact ⟨rfl, h⟩
  | some g =>
    dsimp only
    rw [hk g.index, ← h.db]
    refine .ite ⟨rfl, h⟩ ?_
    cases s.db.lookup k with
    | none => exact hp g.index
    | some vb =>
      dsimp only
      cases unmarshal vb with
      | none => exact ⟨rfl, h⟩
      | some ex => exact .ite ⟨rfl, h⟩ (hp g.index)

end

/-- No aggregation entry other than `d`'s holds a VAA that would be stored under `k`. -/
def Sep (d : Bytes) (k : VaaId) (s : PState) : Prop :=
  ∀ d' st v, d' ≠ d → s.agg.lookup d' = some st → st.ourVAA = some v → v.body.id ≠ k

/-- Events that are about some other message: another digest, and nothing that could be filed under `k`. Guardian-set updates and
cleanup ticks are in neither class: `run_frame` says nothing about runs that contain them. -/
inductive Foreign (O : Oracle) (d : Bytes) (k : VaaId) : Event → Prop
  | obs (o : Obs) (now : Int) : o.hash ≠ d → Foreign O d k (.observation o now)
  | msg (m : Msg) (now : Int) : (∀ i, O.digestOf (vaaOfMsg i m).body ≠ d) → (∀ i, (vaaOfMsg i m).body.id ≠ k) →
      Foreign O d k (.message m now)
  | inj (v : Vaa) (now : Int) : O.digestOf v.body ≠ d → v.body.id ≠ k → Foreign O d k (.injection v now)
  | inb (b : Bytes) : (∀ v, unmarshal b = some v → v.body.id ≠ k) → Foreign O d k (.inbound b)

section
variable {O : Oracle} {d : Bytes} {k : VaaId} {s : PState}

theorem sep_insert_self (h : Sep d k s) {st : VState} {db' : List (VaaId × Bytes)} :
    Sep d k { s with agg := alInsert d st s.agg, db := db' } := by
  intro d' st' v hne hl hv
  rw [lookup_alInsert_of_ne hne] at hl
  exact h d' st' v hne hl hv

theorem sep_insert_of_ne (h : Sep d k s) {d0 : Bytes} {st : VState}
    {db' : List (VaaId × Bytes)} (hst : ∀ v, st.ourVAA = some v → v.body.id ≠ k) :
    Sep d k { s with agg := alInsert d0 st s.agg, db := db' } := by
  intro d' st' v hne hl hv
  by_cases e : d' = d0
  · subst e
    rw [lookup_alInsert_self] at hl
    cases hl
    exact hst v hv
  · rw [lookup_alInsert_of_ne e] at hl
    exact h d' st' v hne hl hv

theorem signBroadcast_foreign {cfg : Config} (hsep : Sep d k s) {v : Vaa}
    (hd : O.digestOf v.body ≠ d) (hk : v.body.id ≠ k) {tx : Bytes} {now : Int} {s1 : PState} {o1 : List Out}
    (h : signBroadcast O cfg s v tx now = .ok s1 o1) : Same d k s1 s ∧ Sep d k s1 := by
  rcases signBroadcast_cases O cfg s v tx now with ⟨_, e⟩ | ⟨sig, _, e⟩ <;> cases e.symm.trans h
  -- signed (a failing signer panics): the VAA is filed under its own digest, the store is not written
  exact ⟨⟨rfl, lookup_alInsert_of_ne (Ne.symm hd), rfl⟩,
    sep_insert_of_ne hsep (by intro v' hv'; cases hv'; exact hk)⟩

theorem handleObservation_foreign (hsep : Sep d k s) {o : Obs} (hne : o.hash ≠ d)
    {now : Int} {s1 : PState} {o1 : List Out} (h : handleObservation O s o now = .ok s1 o1) : Same d k s1 s ∧ Sep d k s1 := by
  have hst : ∀ v, (recordSig (entryOrFresh s o.hash now) (bytesToAddress o.addr) o.sig).ourVAA = some v → v.body.id ≠ k := by
    intro v hv
    rw [recordSig_ourVAA] at hv
    obtain ⟨st0, hl, e⟩ := entryOrFresh_of_ourVAA hv
    exact hsep o.hash st0 v hne hl (e ▸ hv)
  have hne' : d ≠ o.hash := Ne.symm hne
  rcases handleObservation_cases O s o now with ⟨_, e⟩ | ⟨g, _, _, _, e⟩ <;> rw [e] at h
  · cases h; exact ⟨Same.refl .., hsep⟩  -- rejected at the gate
  · rcases obsFinish_cases o.hash g (recordSig (entryOrFresh s o.hash now) (bytesToAddress o.addr) o.sig) with
      ⟨_, e⟩ | ⟨_, e⟩ | ⟨v, hv, _, _, e⟩ <;> cases (e s).symm.trans h  -- a panic is not `.ok`
    · exact ⟨⟨rfl, lookup_alInsert_of_ne hne', rfl⟩, sep_insert_of_ne hsep hst⟩  -- recorded
    · -- published: stored under the id of this entry's VAA, which is not `k`
      exact ⟨⟨rfl, lookup_alInsert_of_ne hne', lookup_alInsert_of_ne (Ne.symm (hst v hv))⟩,
        sep_insert_of_ne hsep hst⟩

theorem step_foreign (O : Oracle) (cfg : Config) (hsep : Sep d k s) {e : Event}
    (hf : Foreign O d k e) {s1 : PState} {o1 : List Out} (h : step O cfg s e = .ok s1 o1) : Same d k s1 s ∧ Sep d k s1 := by
  cases hf with
  | obs o now hne => exact handleObservation_foreign hsep hne h
  | msg m now hd hk =>
    rcases handleMessage_cases O cfg s m now with e | ⟨g, _, e⟩ <;> rw [step, e] at h
    · cases h; exact ⟨Same.refl .., hsep⟩
    · exact signBroadcast_foreign hsep (hd g.index) (hk g.index) h
  | inj v now hd hk =>
    rcases handleInjection_cases O cfg s v now with e | ⟨g, _, e⟩ <;> rw [step, e] at h
    · cases h; exact ⟨Same.refl .., hsep⟩
    · exact signBroadcast_foreign hsep hd hk h
  | inb b hb =>
    rcases handleInbound_cases O s b with e | ⟨v, g, hv, _, _, _, _, e⟩ <;> rw [step, e] at h <;> cases h
    · exact ⟨Same.refl .., hsep⟩
    · exact ⟨⟨rfl, rfl, lookup_alInsert_of_ne (Ne.symm (hb v hv))⟩, hsep⟩

theorem step_window_sep (O : Oracle) (cfg : Config) (hsep : Sep d k s) (m : Msg)
    (hd : ∀ i, O.digestOf (vaaOfMsg i m).body = d) {e : Event}
    (hw : WinEvent d m e)
    {s1 : PState} {o1 : List Out} (h : step O cfg s e = .ok s1 o1) : Sep d k s1 := by
  rcases hw with ⟨now, rfl⟩ | ⟨o, now, rfl, rfl⟩
  · rcases handleMessage_cases O cfg s m now with e | ⟨g, _, e⟩ <;> rw [step, e] at h
    · cases h; exact hsep
    · rcases signBroadcast_cases O cfg s (vaaOfMsg g.index m) m.txHash now with ⟨_, e⟩ | ⟨sig, _, e⟩ <;> cases e.symm.trans h
      -- signed: filed under `d`
      rw [hd]
      exact sep_insert_self hsep
  · rcases handleObservation_cases O s o now with ⟨_, e⟩ | ⟨g, _, _, _, e⟩ <;> rw [step, e] at h
    · cases h; exact hsep
    · rcases obsFinish_cases o.hash g (recordSig (entryOrFresh s o.hash now) (bytesToAddress o.addr) o.sig) with
        ⟨_, e⟩ | ⟨_, e⟩ | ⟨v, _, _, _, e⟩ <;> cases (e s).symm.trans h <;>
        exact sep_insert_self hsep  -- recorded or published: the entry written is that of `d`

end

/-- Is the event about message `m` / its digest `d`? -/
def isWin (d : Bytes) (m : Msg) : Event → Bool
  | .message m' _ => decide (m' = m)
  | .observation o _ => decide (o.hash = d)
  | _ => false

theorem isWin_iff (d : Bytes) (m : Msg) (e : Event) :
    isWin d m e = true ↔ WinEvent d m e := by
  cases e <;> simp [isWin, WinEvent]

/-- The per-step outputs of the events about `m`, in order. -/
def pick (d : Bytes) (m : Msg) : List Event → List (List Out) → List (List Out)
  | e :: es, o :: os => if isWin d m e = true then o :: pick d m es os else pick d m es os
  | _, _ => []

/-- **Other traffic does not matter.** Take any event list in which every event is either about message `m` (the message itself,
observations for its digest `d`) or *foreign* (observations for other digests; chain messages, injections and inbound VAAs with
another digest and another store key). If the whole list runs without a panic from `s`, then the events about `m` alone run from
any `Same` state `s'`, produce step by step exactly the outputs they produced inside the interleaving, and end in a `Same` state:
the aggregation of `m` — whether and when its VAA is published, with which signatures — is a function of the events about `m` only. -/
theorem run_frame (O : Oracle) (cfg : Config) (d : Bytes) (k : VaaId) (m : Msg)
    (hd : ∀ i, O.digestOf (vaaOfMsg i m).body = d) (hk : ∀ i, (vaaOfMsg i m).body.id = k) :
    ∀ (es : List Event) (s s' : PState), (∀ e ∈ es, isWin d m e = true ∨ Foreign O d k e) → Same d k s s' → Sep d k s →
      ∀ sf outs, run O cfg s es = .ok (sf, outs) →
        ∃ sf' outs', run O cfg s' (es.filter (isWin d m)) = .ok (sf', outs') ∧ Same d k sf sf' ∧ outs' = pick d m es outs := by
  intro es
  induction es with
  | nil =>
    intro s s' _ hsame _ sf outs h
    cases h
    exact ⟨s', [], rfl, hsame, rfl⟩
  | cons e es ih =>
    intro s s' hall hsame hsep sf outs h
    obtain ⟨s1, o1, os, hst, hr, rfl⟩ := run_cons_iff.1 h
    have hall' : ∀ e' ∈ es, isWin d m e' = true ∨ Foreign O d k e' := fun e' he' => hall e' (List.mem_cons_of_mem _ he')
    by_cases hw : isWin d m e = true
    · -- an event about m: acts alike on s and s'
      have hw' := (isWin_iff d m e).1 hw
      have hsep1 : Sep d k s1 := step_window_sep O cfg hsep m hd hw' hst
      have hrel : SameRes d k (step O cfg s e) (step O cfg s' e) := by
        rcases hw' with ⟨now, rfl⟩ | ⟨o, now, rfl, ho⟩
        · exact handleMessage_same O cfg hsame m now hd hk
        · exact handleObservation_same O hsame o now ho
      rw [hst] at hrel
      cases hst' : step O cfg s' e with
      | panic site => rw [hst'] at hrel; exact hrel.elim
      | ok s1' o1' =>
        rw [hst'] at hrel
        obtain ⟨ho, hsame1⟩ := hrel
        obtain ⟨sf', outs', hrun', hsamef, hpick⟩ := ih s1 s1' hall' hsame1 hsep1 sf os hr
        refine ⟨sf', o1' :: outs', ?_, hsamef, ?_⟩
        · rw [List.filter_cons_of_pos hw]
          exact run_cons_iff.2 ⟨_, _, _, hst', hrun', rfl⟩
        · unfold pick
          rw [if_pos hw, hpick, ho]
    · -- a foreign event: s1 is Same to s, the filtered run skips it
      have hf : Foreign O d k e := (hall e List.mem_cons_self).resolve_left hw
      obtain ⟨hsame1, hsep1⟩ := step_foreign O cfg hsep hf hst
      obtain ⟨sf', outs', hrun', hsamef, hpick⟩ := ih s1 s' hall' (hsame1.trans hsame) hsep1 sf os hr
      refine ⟨sf', outs', ?_, hsamef, ?_⟩
      · rw [List.filter_cons_of_neg hw]; exact hrun'
      · unfold pick
        rw [if_neg hw, hpick]

end Whv.Proc
