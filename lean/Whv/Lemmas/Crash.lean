import Whv.Model.Crash
/-! The durable log of the crash contract (`Whv/Model/Crash.lean`) is at all times the attempt history minus some un-acknowledged
attempts (`Emb`, kept by every event: `Inv`); what C16 states is read off that. -/
namespace Whv.Crash
open Whv

theorem exec_append (s : CS) (evs evs' : List Ev) : exec s (evs ++ evs') = exec (exec s evs) evs' :=
  List.foldl_append

/-- `Emb log atts`: the durable log is the attempt history with some un-acknowledged attempts removed (both newest first). -/
inductive Emb : List Entry → List Entry → Prop
  | nil : Emb [] []
  | keep (a : Entry) {l t : List Entry} : Emb l t → Emb (a :: l) (a :: t)
  | drop (a : Entry) {l t : List Entry} : a.acked = false → Emb l t → Emb l (a :: t)

theorem Emb.drop_head {a : Entry} {l t : List Entry} (h : Emb (a :: l) t) (ha : a.acked = false) : Emb l t := by
  generalize hl : a :: l = l' at h
  induction h with
  | nil => cases hl
  | keep b h' _ => cases hl; exact Emb.drop _ ha h'
  | drop b hb _ ih => exact Emb.drop _ hb (ih hl)

theorem Emb.cut (n : Nat) {l t : List Entry} (h : Emb l t) : Emb (cutUnacked n l) t := by
  fun_induction cutUnacked n l with
  | case1 | case2 | case3 => exact h  -- nothing to cut, or an acknowledged head stops the cut
  | case4 n e l he ih => exact ih (h.drop_head (by simpa using he))  -- an un-acknowledged head is cut

theorem Emb.mem_of_acked {l t : List Entry} (h : Emb l t) : ∀ a ∈ t, a.acked = true → a ∈ l := by
  induction h with
  | nil => nofun
  | keep b _ ih =>
    exact List.forall_mem_cons.2 ⟨fun _ => List.mem_cons_self .., fun a ha hk => List.mem_cons_of_mem _ (ih a ha hk)⟩
  | drop b hb _ ih => exact List.forall_mem_cons.2 ⟨fun hk => Bool.noConfusion (hb.symm.trans hk), ih⟩

theorem Emb.sublist {l t : List Entry} (h : Emb l t) : l.Sublist t := by
  induction h with
  | nil => exact .slnil
  | keep a _ ih => exact ih.cons_cons a
  | drop a _ _ ih => exact ih.cons a

theorem Emb.acceptKey_lookup {l t : List Entry} (h : Emb l t) (k : Nat) : acceptKey t k (lookup l k) = true := by
  induction h with
  | nil => rfl
  | keep a _ ih =>
    by_cases hk : a.key = k
    · simp [acceptKey, lookup, hk]
    · simp [acceptKey, lookup, hk, ih]
  | drop a ha _ ih =>
    by_cases hk : a.key = k
    · -- an un-acknowledged attempt of `k` that the log lost: the answer may be its value, else the judge moves on to `t`
      simp only [acceptKey, hk, ne_eq, not_true_eq_false, if_false, ha]
      split
      · rfl
      · simpa using ih
    · simp [acceptKey, hk, ih]

theorem exists_mem_of_lookup_eq_some {l : List Entry} {k : Nat} {b : Bytes} (h : lookup l k = some b) : ∃ e ∈ l, e.key = k ∧ e.val = b := by
  induction l with
  | nil => cases h
  | cons e l ih =>
    by_cases hk : e.key = k
    · simp [lookup, hk] at h
      exact ⟨e, List.mem_cons_self .., hk, h⟩
    · simp [lookup, hk] at h
      obtain ⟨e', he', x⟩ := ih h
      exact ⟨e', List.mem_cons_of_mem _ he', x⟩

/-- What every event keeps: the log is embedded in the attempt history, and while a put is pending it is the head of BOTH lists
(the same entry) — which is what lets `ackHead` act on both without breaking the embedding. -/
def Inv (s : CS) : Prop :=
  Emb s.log s.atts ∧ (s.pending = true → ∃ e l t, s.log = e :: l ∧ s.atts = e :: t ∧ Emb l t)

theorem inv_init : Inv {} := ⟨.nil, nofun⟩

theorem inv_step (s : CS) (ev : Ev) (h : Inv s) : Inv (step s ev) := by
  obtain ⟨he, hp⟩ := h
  fun_cases step s ev with
  | case1 k v hu => exact ⟨Emb.keep _ he, fun _ => ⟨_, _, _, rfl, rfl, he⟩⟩  -- put while up
  | case3 hu =>  -- ack of the pending put
    obtain ⟨e, l, t, hl, ht, hlt⟩ := hp (Bool.and_eq_true_iff.1 hu).2
    exact ⟨by rw [hl, ht]; exact Emb.keep _ hlt, nofun⟩
  | case5 cut hu => exact ⟨he.cut cut, nofun⟩  -- crash while up
  | case2 | case4 | case6 | case7 => exact ⟨he, hp⟩  -- ignored events and reopen leave log and attempts alone

theorem inv_exec {s : CS} (evs : List Ev) (h : Inv s) : Inv (exec s evs) := by
  induction evs generalizing s with
  | nil => exact h
  | cons ev evs ih => exact ih (inv_step s ev h)

/-! ## the attempt history: acknowledged attempts stay, and every attempt comes from a put event -/

theorem mem_ackHead_of_acked {a : Entry} {l : List Entry} (h : a ∈ l) (hk : a.acked = true) : a ∈ ackHead l := by
  cases l with
  | nil => cases h
  | cons e l =>
    rcases List.mem_cons.1 h with rfl | h
    · have : ({ a with acked := true } : Entry) = a := by rw [← hk]
      rw [ackHead, this]; exact List.mem_cons_self ..
    · exact List.mem_cons_of_mem _ h

theorem acked_att_step (s : CS) (ev : Ev) {a : Entry} (ha : a ∈ s.atts) (hk : a.acked = true) : a ∈ (step s ev).atts := by
  fun_cases step s ev with
  | case1 => exact List.mem_cons_of_mem _ ha  -- put while up
  | case3 => exact mem_ackHead_of_acked ha hk  -- ack of the pending put
  | case2 | case4 | case5 | case6 | case7 => exact ha  -- the attempts are untouched

theorem acked_att_exec {s : CS} (evs : List Ev) {a : Entry} (ha : a ∈ s.atts) (hk : a.acked = true) : a ∈ (exec s evs).atts := by
  induction evs generalizing s with
  | nil => exact ha
  | cons ev evs ih => exact ih (acked_att_step s ev ha hk)

theorem att_origin_step (s : CS) (ev : Ev) (a : Entry) (ha : a ∈ (step s ev).atts) :
    (∃ a' ∈ s.atts, a'.key = a.key ∧ a'.val = a.val) ∨ ev = .put a.key a.val := by
  revert ha
  fun_cases step s ev with
  | case1 k v hu =>  -- put while up
    intro ha
    rcases List.mem_cons.1 ha with rfl | ha
    · exact .inr rfl
    · exact .inl ⟨a, ha, rfl, rfl⟩
  | case3 hu =>  -- ack of the pending put
    intro ha
    left
    cases hs : s.atts with
    | nil => rw [hs] at ha; cases ha
    | cons e t =>
      rw [hs] at ha
      rcases List.mem_cons.1 ha with rfl | ha
      · exact ⟨e, List.mem_cons_self .., rfl, rfl⟩
      · exact ⟨a, List.mem_cons_of_mem _ ha, rfl, rfl⟩
  | case2 | case4 | case5 | case6 | case7 => exact fun ha => .inl ⟨a, ha, rfl, rfl⟩  -- the attempts are untouched

theorem att_origin_exec (evs : List Ev) : ∀ (s : CS) (a : Entry), a ∈ (exec s evs).atts →
    (∃ a' ∈ s.atts, a'.key = a.key ∧ a'.val = a.val) ∨ Ev.put a.key a.val ∈ evs := by
  induction evs with
  | nil => exact fun s a ha => .inl ⟨a, ha, rfl, rfl⟩
  | cons ev evs ih =>
    intro s a ha
    rcases ih (step s ev) a ha with ⟨a', ha', hk, hv⟩ | h
    · rcases att_origin_step s ev a' ha' with ⟨a'', ha'', hk', hv'⟩ | h
      · exact .inl ⟨a'', ha'', by rw [hk', hk], by rw [hv', hv]⟩
      · right  -- `ev` is the put that made `a'`, which has the key and value of `a`
        rw [← hk, ← hv, ← h]
        exact List.mem_cons_self ..
    · exact .inr (List.mem_cons_of_mem _ h)

end Whv.Crash
