import Whv.Model.Processor
import Whv.Lemmas.Basic
/-!
Lemmas about the processor model (`Whv/Model/Processor.lean`). A `_cases` lemma says what a handler does: a no-op, or its one
effect, with the conditions under which. The no-panic invariant of C13 (`Inv`) is proved on top of them.
-/
namespace Whv.Proc
open Whv

theorem mem_alInsert {α β : Type} [BEq α] {k : α} {v : β} {l : List (α × β)} {p : α × β}
    (h : p ∈ alInsert k v l) : p = (k, v) ∨ p ∈ l := by
  induction l with
  | nil => exact .inl (List.mem_singleton.1 h)
  | cons hd tl ih =>
    unfold alInsert at h
    split at h
    · exact (List.mem_cons.1 h).imp_right (List.mem_cons_of_mem _)
    · rcases List.mem_cons.1 h with h | h
      · exact .inr (h ▸ List.mem_cons_self)
      · exact (ih h).imp_right (List.mem_cons_of_mem _)

theorem forall_mem_alInsert {α β : Type} [BEq α] {k : α} {v : β} {l : List (α × β)} {P : α × β → Prop}
    (hv : P (k, v)) (hl : ∀ p ∈ l, P p) : ∀ p ∈ alInsert k v l, P p :=
  fun p hp => (mem_alInsert hp).elim (· ▸ hv) (hl p)

theorem alInsert_ne_nil {α β : Type} [BEq α] (k : α) (v : β) (l : List (α × β)) : alInsert k v l ≠ [] := by
  cases l with
  | nil => simp [alInsert]
  | cons hd tl =>
    obtain ⟨k', v'⟩ := hd
    unfold alInsert
    split <;> simp

theorem lookup_alInsert {α β : Type} [BEq α] [LawfulBEq α] (k k' : α) (v : β) (l : List (α × β)) :
    (alInsert k v l).lookup k' = if (k' == k) = true then some v else l.lookup k' := by
  induction l with
  | nil =>
    simp only [alInsert, List.lookup]
    cases h : k' == k <;> simp
  | cons hd tl ih =>
    obtain ⟨k0, v0⟩ := hd
    unfold alInsert
    by_cases h0 : (k0 == k) = true
    · rw [if_pos h0]
      have e : k0 = k := by simpa using h0
      subst e
      simp only [List.lookup]
      cases h : k' == k0 <;> simp
    · rw [if_neg h0]
      simp only [List.lookup]
      cases h : k' == k0 with
      | false => exact ih
      | true =>
        have e : k' = k0 := by simpa using h
        subst e
        rw [if_neg h0]

theorem lookup_alInsert_self {α β : Type} [BEq α] [LawfulBEq α] (k : α) (v : β) (l : List (α × β)) :
    (alInsert k v l).lookup k = some v := by
  rw [lookup_alInsert, if_pos (beq_self_eq_true k)]

theorem lookup_alInsert_of_ne {α β : Type} [BEq α] [LawfulBEq α] {k k' : α} (hne : k' ≠ k) {v : β} {l : List (α × β)} :
    (alInsert k v l).lookup k' = l.lookup k' := by
  rw [lookup_alInsert, if_neg (by simpa using hne)]

theorem quorum_pos (n : Nat) : 1 ≤ quorum n := Nat.le_add_left ..

theorem storeSigned_some {db : List (VaaId × Bytes)} {v : Vaa} (h : v.sigs.length ≠ 0) :
    storeSigned db v = some (alInsert v.body.id (marshal v) db) := by
  unfold storeSigned; rw [if_neg h]

theorem recordSig_ourVAA (st : VState) (a : Addr) (sig : Bytes) : (recordSig st a sig).ourVAA = st.ourVAA := rfl

theorem recordSig_gs (st : VState) (a : Addr) (sig : Bytes) : (recordSig st a sig).gs = st.gs := rfl

theorem badSigLen_false {keys : List Addr} {sigs : List (Addr × Bytes)} (h : ∀ p ∈ sigs, p.2.length = 65) :
    badSigLen keys sigs = false := by
  unfold badSigLen
  rw [List.any_eq_false]
  intro a _
  cases hl : sigs.lookup a with
  | none => simp
  | some sg => simp [h _ (List.mem_of_lookup_eq_some hl)]

/-- Sign the digest of `v` and file it as the node's own observation: the common tail of `handleMessage` and
`handleInjection` (with `.1`/`.2` instead of their pattern-`let`, so that no `match` on a pair stands in the way of `rfl`). -/
def signBroadcast (O : Oracle) (cfg : Config) (s : PState) (v : Vaa) (tx : Bytes) (now : Int) : Res :=
  match O.sign (O.digestOf v.body) with
  | none => .panic "sign"
  | some sig =>
    .ok (broadcastSignature cfg s (O.digestOf v.body) v sig tx now).1 (broadcastSignature cfg s (O.digestOf v.body) v sig tx now).2

section handlers
variable (O : Oracle) (cfg : Config) (s : PState)

theorem signBroadcast_cases (v : Vaa) (tx : Bytes) (now : Int) :
    (O.sign (O.digestOf v.body) = none ∧ signBroadcast O cfg s v tx now = .panic "sign") ∨
    ∃ sig, O.sign (O.digestOf v.body) = some sig ∧
      signBroadcast O cfg s v tx now = .ok (broadcastSignature cfg s (O.digestOf v.body) v sig tx now).1
        (broadcastSignature cfg s (O.digestOf v.body) v sig tx now).2 := by
  unfold signBroadcast
  cases O.sign (O.digestOf v.body) with
  | none => exact .inl ⟨rfl, rfl⟩
  | some sig => exact .inr ⟨sig, rfl, rfl⟩

theorem handleMessage_cases (m : Msg) (now : Int) :
    handleMessage O cfg s m now = .ok s [] ∨
    ∃ g, s.gs = some g ∧ handleMessage O cfg s m now = signBroadcast O cfg s (vaaOfMsg g.index m) m.txHash now := by
  fun_cases handleMessage O cfg s m now with
  | case5 g hg => exact .inr ⟨g, hg, rfl⟩  -- a stored VAA that is not older than the settlement time
  | case6 g hg => exact .inr ⟨g, hg, rfl⟩  -- nothing stored
  | _ => exact .inl rfl                    -- no set, governance emitter, stored VAA undecodable or settled

theorem handleMessage_fresh {s : PState} {g : GSet} (hgs : s.gs = some g) (m : Msg) (now : Int)
    (hng : ¬ (m.emitter = cfg.govEmitter ∧ m.emitterChain = cfg.govChain))
    (hdb : s.db.lookup (vaaOfMsg g.index m).body.id = none) :
    handleMessage O cfg s m now = signBroadcast O cfg s (vaaOfMsg g.index m) m.txHash now := by
  unfold handleMessage
  simp only [hgs]
  rw [if_neg (show ¬ ((vaaOfMsg g.index m).body.emitter = cfg.govEmitter ∧
    (vaaOfMsg g.index m).body.emitterChain = cfg.govChain) from hng)]
  simp only [hdb]
  rfl

theorem handleInjection_cases (v : Vaa) (now : Int) :
    handleInjection O cfg s v now = .ok s [] ∨
    ∃ g, s.gs = some g ∧ handleInjection O cfg s v now = signBroadcast O cfg s v [] now := by
  unfold handleInjection
  split
  · exact .inl rfl
  · next g hg => exact .inr ⟨g, hg, rfl⟩

theorem handleInbound_cases (b : Bytes) :
    handleInbound O s b = .ok s [] ∨
    ∃ v g, unmarshal b = some v ∧ s.gs = some g ∧
      verifySignatures (O.recover (O.digestOf v.body)) v.sigs g.keys = true ∧ quorum g.keys.length ≤ v.sigs.length ∧
      s.db.lookup v.body.id = none ∧
      handleInbound O s b = .ok { s with db := alInsert v.body.id (marshal v) s.db } [] := by
  fun_cases handleInbound O s b with
  | case8 v _ g _ _ hne _ _ _ hs =>
    -- `storeSigned` refuses: impossible, the VAA has signatures
    rw [storeSigned_some hne] at hs; cases hs
  | case9 v hv g hg _ hne hq hver hl db' hs =>
    -- all checks passed
    rw [storeSigned_some hne] at hs; cases hs
    exact .inr ⟨v, g, hv, hg, Decidable.not_not.1 hver, Nat.le_of_not_lt hq, hl, rfl⟩
  | _ => exact .inl rfl  -- one of the seven checks drops it

theorem entryOrFresh_of_ourVAA {s : PState} {d : Bytes} {now : Int} {v : Vaa} (h : (entryOrFresh s d now).ourVAA = some v) :
    ∃ st, s.agg.lookup d = some st ∧ entryOrFresh s d now = st := by
  unfold entryOrFresh at h ⊢
  cases hl : s.agg.lookup d with
  | none => rw [hl] at h; cases h
  | some st => exact ⟨st, rfl, rfl⟩

theorem entryOrFresh_insert (s : PState) (d : Bytes) (st : VState) (now : Int) :
    entryOrFresh { s with agg := alInsert d st s.agg } d now = st := by
  unfold entryOrFresh
  simp only
  rw [lookup_alInsert_self]

/-- For whatever `now`: a fresh entry has no snapshot. -/
theorem gateSet_eq_settleGs (d : Bytes) (now : Int) : gateSet s d = settleGs s.gs (entryOrFresh s d now) := by
  unfold gateSet entryOrFresh settleGs
  cases s.agg.lookup d <;> rfl

theorem gateSet_eq_snap {s : PState} {d : Bytes} {gs g' : GSet} (now : Int) (hg : gateSet s d = some gs)
    (hs : (entryOrFresh s d now).gs = some g') : gs = g' := by
  rw [gateSet_eq_settleGs s d now, settleGs, hs] at hg
  exact (Option.some.inj hg).symm

theorem handleObservation_cases (o : Obs) (now : Int) :
    ((∀ g, gateSet s o.hash = some g →
        ¬ (O.recover o.hash o.sig = some (bytesToAddress o.addr) ∧ bytesToAddress o.addr ∈ g.keys)) ∧
      handleObservation O s o now = .ok s []) ∨
    ∃ g, gateSet s o.hash = some g ∧ O.recover o.hash o.sig = some (bytesToAddress o.addr) ∧ bytesToAddress o.addr ∈ g.keys ∧
      handleObservation O s o now =
        obsFinish s o.hash g (recordSig (entryOrFresh s o.hash now) (bytesToAddress o.addr) o.sig) := by
  fun_cases handleObservation O s o now with
  | case1 hrec =>  -- the signature does not recover
    exact .inl ⟨fun g _ h => (nomatch hrec.symm.trans h.1), rfl⟩
  | case2 signer hrec haddr =>  -- it recovers to another address
    exact .inl ⟨fun g _ h => haddr (Option.some.inj (hrec.symm.trans h.1)).symm, rfl⟩
  | case3 signer hrec haddr hg =>  -- no gate set
    exact .inl ⟨fun g h _ => (nomatch hg.symm.trans h), rfl⟩
  | case4 signer hrec haddr g hg hmem =>  -- the address is not a member
    refine .inl ⟨fun g' h' h => ?_, rfl⟩
    cases hg.symm.trans h'
    rw [List.contains_iff_mem.2 h.2] at hmem
    cases hmem
  | case5 signer hrec haddr g hg hmem =>  -- accepted
    refine .inr ⟨g, hg, ?_, List.contains_iff_mem.1 (eq_true_of_ne_false hmem), rfl⟩
    rw [hrec, Decidable.not_not.1 haddr]

theorem handleObservation_of_gateSet_none {s : PState} {o : Obs} (hg : gateSet s o.hash = none) (now : Int) :
    handleObservation O s o now = .ok s [] :=
  (handleObservation_cases O s o now).elim (·.2) fun ⟨_, hg', _⟩ => nomatch hg.symm.trans hg'

/-- The observation passes the gate of set `g` for digest `d`: the signature recovers to the address it claims, and that
address is a member. -/
def isAcc (O : Oracle) (g : GSet) (d : Bytes) (o : Obs) : Bool :=
  decide (O.recover d o.sig = some (bytesToAddress o.addr)) && g.keys.contains (bytesToAddress o.addr)

theorem isAcc_iff (O : Oracle) (g : GSet) (d : Bytes) (o : Obs) :
    isAcc O g d o = true ↔ O.recover d o.sig = some (bytesToAddress o.addr) ∧ bytesToAddress o.addr ∈ g.keys := by
  simp [isAcc]

theorem handleObservation_eq {s : PState} {o : Obs} {g : GSet} (hg : gateSet s o.hash = some g) (now : Int) :
    handleObservation O s o now =
      if isAcc O g o.hash o = true then
        obsFinish s o.hash g (recordSig (entryOrFresh s o.hash now) (bytesToAddress o.addr) o.sig)
      else .ok s [] := by
  rcases handleObservation_cases O s o now with ⟨hn, e⟩ | ⟨g', hg', hrec, hmem, e⟩
  · rw [e, if_neg fun h => hn g hg ((isAcc_iff ..).1 h)]
  · cases hg.symm.trans hg'
    rw [e, if_pos ((isAcc_iff ..).2 ⟨hrec, hmem⟩)]

end handlers

/-- Which of the three happens depends on the gate set and the entry `st1` (with the new signature) alone, not on the rest of the
state: a quorum is at least one signature, so `storeSigned` cannot refuse. -/
theorem obsFinish_cases (d : Bytes) (gs : GSet) (st1 : VState) :
    (badSigLen gs.keys st1.signatures = true ∧ ∀ s, obsFinish s d gs st1 = .panic "invalid sig len") ∨
    ((∀ v, st1.ourVAA = some v →
        ¬ (quorum gs.keys.length ≤ (assemble gs.keys st1.signatures).length ∧ st1.submitted = false)) ∧
      ∀ s, obsFinish s d gs st1 = .ok { s with agg := alInsert d st1 s.agg } []) ∨
    ∃ v, st1.ourVAA = some v ∧ quorum gs.keys.length ≤ (assemble gs.keys st1.signatures).length ∧ st1.submitted = false ∧
      ∀ s, obsFinish s d gs st1 =
        .ok { s with agg := alInsert d { st1 with submitted := true } s.agg,
                     db := alInsert v.body.id (marshal { v with sigs := assemble gs.keys st1.signatures }) s.db }
          [Out.vaa (marshal { v with sigs := assemble gs.keys st1.signatures })] := by
  cases hb : badSigLen gs.keys st1.signatures with
  | true => exact .inl ⟨rfl, fun s => by rw [obsFinish, hb, if_pos rfl]⟩
  | false =>
    right
    cases hv : st1.ourVAA with
    | none => exact .inl ⟨nofun, fun s => by simp only [obsFinish, hb, hv, Bool.false_eq_true, if_false]⟩
    | some v =>
      by_cases hq : (assemble gs.keys st1.signatures).length ≥ quorum gs.keys.length ∧ st1.submitted = false
      · refine .inr ⟨v, rfl, hq.1, hq.2, fun s => ?_⟩
        have hne : (assemble gs.keys st1.signatures).length ≠ 0 :=
          Nat.ne_of_gt (Nat.lt_of_lt_of_le (quorum_pos _) hq.1)
        simp only [obsFinish, hb, hv, Bool.false_eq_true, if_false, if_pos hq]
        rw [storeSigned_some hne]
      · exact .inl ⟨fun v' h => by cases h; exact hq,
          fun s => by simp only [obsFinish, hb, hv, Bool.false_eq_true, if_false, if_neg hq]⟩

theorem settleAct_some (g : GSet) (st : VState) : settleAct (some g) st = .keep { st with settled := true } [] := by
  unfold settleAct settleGs
  cases st.gs <;> rfl

section cleanup
variable {pgs : Option GSet} {db : List (VaaId × Bytes)} {now : Int} {room : Bool} {st st' : VState} {outs : List Out}

theorem cleanupEntry_keep_cases (h : cleanupEntry pgs db now room st = .keep st' outs) :
    (st.settled = false ∧ now - st.firstObserved > settlementTime ∧ st' = { st with settled := true } ∧ outs = []) ∨
    (∃ o v, st.ourMsg = some o ∧ st.ourVAA = some v ∧ st.submitted = false ∧ exhausted st = false ∧
      now - st.firstObserved ≥ fiveMinutes ∧ retryDue now st.lastRetry = true ∧
      st' = { st with retryCount := st.retryCount + 1, lastRetry := some now } ∧
      outs = (if room then [Out.obsReq v.body.emitterChain st.txHash] else []) ++ [Out.obs o]) ∨
    (¬ (st.settled = false ∧ now - st.firstObserved > settlementTime) ∧
      ¬ (st.submitted = true ∧ now - st.firstObserved ≥ oneHour) ∧
      ¬ (st.submitted = false ∧ now - st.firstObserved ≥ fiveMinutes ∧ retryDue now st.lastRetry = true) ∧
      st' = st ∧ outs = []) := by
  revert h
  fun_cases cleanupEntry pgs db now room st with
  | case2 _ hs =>  -- settle
    intro h
    unfold settleAct at h
    split at h
    · cases h
    · cases h; exact .inl ⟨hs.1, hs.2, rfl, rfl⟩
  | case5 _ _ _ hex hdue =>  -- retry
    intro h
    unfold retryAct at h
    split at h
    · next o ho =>  -- the node has observed the message
      split at h
      · cases h  -- without `ourVAA`: panic
      · next v hv =>
        cases h
        exact .inr (.inl ⟨o, v, ho, hv, hdue.1, eq_false_of_ne_true fun he => hex ⟨hdue.1, he⟩, hdue.2.1, hdue.2.2, rfl, rfl⟩)
    · split at h <;> cases h  -- never observed: panic without a set, else deleted
  | case6 _ h2 h3 _ h5 =>  -- no rule applies
    intro h
    cases h
    exact .inr (.inr ⟨h2, h3, h5, rfl, rfl⟩)
  | _ => nofun  -- late, an hour after submission, retries exhausted: deleted

theorem cleanupEntry_panic_cases {site : String} (h : cleanupEntry pgs db now room st = .panic site) :
    pgs = none ∨ ∃ o, st.ourMsg = some o ∧ st.ourVAA = none := by
  cases pgs with
  | none => exact .inl rfl
  | some g =>
    right
    revert h
    fun_cases cleanupEntry (some g) db now room st with
    | case2 => rw [settleAct_some]; nofun  -- settle
    | case5 =>  -- retry
      intro h
      unfold retryAct at h
      split at h
      · next o ho =>  -- the node has observed the message
        split at h
        · next hv => exact ⟨o, ho, hv⟩  -- without `ourVAA`
        · cases h
      · cases h  -- never observed: deleted
    | _ => nofun  -- deleted or left alone

theorem cleanupEntry_keep_eq_with (h : cleanupEntry pgs db now room st = .keep st' outs) :
    ∃ b n lr, st' = { st with settled := b, retryCount := n, lastRetry := lr } := by
  rcases cleanupEntry_keep_cases h with ⟨_, _, rfl, _⟩ | ⟨_, _, _, _, _, _, _, _, rfl, _⟩ | ⟨_, _, _, rfl, _⟩ <;> exact ⟨_, _, _, rfl⟩

theorem cleanupEntry_keep_no_vaa (h : cleanupEntry pgs db now room st = .keep st' outs) (b : Bytes) : Out.vaa b ∉ outs := by
  rcases cleanupEntry_keep_cases h with ⟨_, _, _, rfl⟩ | ⟨_, _, _, _, _, _, _, _, _, rfl⟩ | ⟨_, _, _, _, rfl⟩
  · nofun
  · cases room <;> simp
  · nofun

/-- `b` shares the fate of `a` (deleted, or kept in the same state), possibly with other outputs. One direction only: when `a`
panics nothing is said of `b`. -/
def SameFate (a b : CleanupAct) : Prop :=
  (a = .delete → b = .delete) ∧ ∀ st' o, a = .keep st' o → ∃ o', b = .keep st' o'

theorem SameFate.refl (a : CleanupAct) : SameFate a a := ⟨id, fun _ o h => ⟨o, h⟩⟩

theorem SameFate.ite {c : Prop} [Decidable c] {a a' b b' : CleanupAct} (h1 : SameFate a a') (h2 : SameFate b b') :
    SameFate (if c then a else b) (if c then a' else b') := by
  split <;> assumption

/-- The request queue decides only whether a retry carries a re-observation request: the rules of `cleanupEntry` do not
look at it, and `retryAct` uses it for the outputs alone. -/
theorem cleanupEntry_room (pgs : Option GSet) (db : List (VaaId × Bytes)) (now : Int) (st : VState) (r r' : Bool) :
    SameFate (cleanupEntry pgs db now r st) (cleanupEntry pgs db now r' st) := by
  refine .ite (.refl _) (.ite (.refl _) (.ite (.refl _) (.ite (.refl _) (.ite ?_ (.refl _)))))
  unfold retryAct
  cases st.ourMsg with
  | none => exact .refl _
  | some ob =>
    cases st.ourVAA with
    | none => exact .refl _
    | some v => exact And.intro nofun fun st' o h => by cases h; exact ⟨_, rfl⟩

/-- Whatever survives a tick, and whatever the tick emits, comes from an entry that `cleanupEntry` kept: a property of all
kept entries (`P`) and of all their outputs (`Q`) holds of the result of the loop. -/
theorem cleanupAll_lift {P : Bytes → VState → Prop} {Q : Out → Prop} :
    ∀ {l : List (Bytes × VState)} {room : Nat} {l' : List (Bytes × VState)} {outs : List Out},
      (∀ d st r st' o, (d, st) ∈ l → cleanupEntry pgs db now r st = .keep st' o → P d st' ∧ ∀ x ∈ o, Q x) →
      cleanupAll pgs db now l room = .ok (l', outs) → (∀ p ∈ l', P p.1 p.2) ∧ ∀ x ∈ outs, Q x := by
  intro l
  induction l with
  | nil => intro _ _ _ _ h; cases h; exact ⟨fun _ hp => (nomatch hp), fun _ hp => (nomatch hp)⟩
  | cons hd tl ih =>
    intro room l' outs hstep h
    obtain ⟨d0, st0⟩ := hd
    have htl := fun d st r st' o hm => hstep d st r st' o (List.mem_cons_of_mem _ hm)
    unfold cleanupAll at h
    split at h
    · cases h  -- the head panics
    · exact ih htl h  -- the head is deleted
    · next st1 o1 hk1 =>  -- the head is kept
      split at h
      · cases h
      · next agg' outs' hrest =>
        cases h
        obtain ⟨i1, i2⟩ := ih htl hrest
        obtain ⟨j1, j2⟩ := hstep d0 st0 _ st1 o1 List.mem_cons_self hk1
        exact ⟨List.forall_mem_cons.2 ⟨j1, i1⟩, fun x hx => (List.mem_append.1 hx).elim (j2 x) (i2 x)⟩

theorem cleanupAll_total (pgs : Option GSet) (db : List (VaaId × Bytes)) (now : Int) :
    ∀ (l : List (Bytes × VState)) (room : Nat), (∀ p ∈ l, ∀ r site, cleanupEntry pgs db now r p.2 ≠ .panic site) →
      ∃ l' outs, cleanupAll pgs db now l room = .ok (l', outs) := by
  intro l
  induction l with
  | nil => intro room _; exact ⟨[], [], rfl⟩
  | cons hd tl ih =>
    intro room h
    obtain ⟨d, st⟩ := hd
    have htl := fun room' => ih room' fun p hp => h p (List.mem_cons_of_mem _ hp)
    unfold cleanupAll
    cases hc : cleanupEntry pgs db now (decide (room > 0)) st with
    | panic site => exact absurd hc (h _ List.mem_cons_self _ _)
    | delete => exact htl room
    | keep st' outs =>
      obtain ⟨l', outs', he⟩ := htl (room - usedSlot outs)
      refine ⟨(d, st') :: l', outs ++ outs', ?_⟩
      simp only [he]

theorem cleanupAll_no_vaa {l l' : List (Bytes × VState)} {room : Nat} (h : cleanupAll pgs db now l room = .ok (l', outs))
    (b : Bytes) : Out.vaa b ∉ outs := fun hb =>
  (cleanupAll_lift (P := fun _ _ => True) (Q := fun x => x ≠ .vaa b)
    (fun _ _ _ _ _ _ hk => ⟨trivial, fun _ hx e => cleanupEntry_keep_no_vaa hk b (e ▸ hx)⟩) h).2 _ hb rfl

theorem cleanupAll_keeps :
    ∀ {l : List (Bytes × VState)} {room : Nat} {l' : List (Bytes × VState)} {outs : List Out},
      cleanupAll pgs db now l room = .ok (l', outs) →
      ∀ d st st' r o, (d, st) ∈ l → cleanupEntry pgs db now r st = .keep st' o → (d, st') ∈ l' := by
  intro l
  induction l with
  | nil => intro _ _ _ _ _ _ _ _ _; nofun
  | cons hd tl ih =>
    intro room l' outs h d st st' r o hm hk
    obtain ⟨d0, st0⟩ := hd
    unfold cleanupAll at h
    rcases List.mem_cons.1 hm with e | hm
    · -- the head: kept in the same state whatever the room
      cases e
      obtain ⟨o', ho'⟩ := (cleanupEntry_room pgs db now st r (decide (room > 0))).2 _ _ hk
      rw [ho'] at h
      dsimp only at h
      split at h
      · cases h
      · cases h
        exact List.mem_cons_self
    · split at h
      · cases h  -- the head panics
      · exact ih h d st st' r o hm hk  -- the head is deleted
      · split at h  -- the head is kept
        · cases h
        · next hrest =>
          cases h
          exact List.mem_cons_of_mem _ (ih hrest d st st' r o hm hk)

end cleanup

theorem handleCleanup_ok_iff {s s' : PState} {now : Int} {room : Nat} {outs : List Out} :
    handleCleanup s now room = .ok s' outs ↔
      ∃ agg', cleanupAll s.gs s.db now s.agg room = .ok (agg', outs) ∧ s' = { s with agg := agg' } := by
  unfold handleCleanup
  split
  · next hc =>  -- the loop panics
    simp only [hc, reduceCtorEq, false_and, exists_false]
  · next agg' o hc =>
    simp only [Res.ok.injEq, hc, Except.ok.injEq, Prod.mk.injEq]
    constructor
    · rintro ⟨rfl, rfl⟩; exact ⟨_, ⟨rfl, rfl⟩, rfl⟩
    · rintro ⟨_, ⟨rfl, rfl⟩, rfl⟩; exact ⟨rfl, rfl⟩

theorem broadcastSignature_no_vaa (cfg : Config) (s : PState) (d : Bytes) (v : Vaa) (sig tx : Bytes) (now : Int) (b : Bytes) :
    Out.vaa b ∉ (broadcastSignature cfg s d v sig tx now).2 := by
  simp [broadcastSignature]

section
variable {O : Oracle} {cfg : Config} {s s' : PState} {e : Event} {outs : List Out}

theorem step_of_not_observation (h : step O cfg s e = .ok s' outs) (hobs : ∀ o now, e ≠ .observation o now) :
    (∀ b, Out.vaa b ∉ outs) ∧ ((∀ b, e ≠ .inbound b) → s'.db = s.db) := by
  have sb : ∀ v tx now, signBroadcast O cfg s v tx now = .ok s' outs → (∀ b, Out.vaa b ∉ outs) ∧ s'.db = s.db := by
    intro v tx now h
    -- the panic outcome contradicts `h`, the other one fixes `s'` and `outs`
    rcases signBroadcast_cases O cfg s v tx now with ⟨_, e⟩ | ⟨sig, _, e⟩ <;> cases e.symm.trans h
    exact ⟨broadcastSignature_no_vaa _ _ _ _ _ _ _, rfl⟩
  cases e with
  | setUpdate g => cases h; exact ⟨fun _ => nofun, fun _ => rfl⟩
  | message m now =>
    rcases handleMessage_cases O cfg s m now with e | ⟨g, _, e⟩ <;> rw [step, e] at h
    · cases h; exact ⟨fun _ => nofun, fun _ => rfl⟩
    · exact ⟨(sb _ _ _ h).1, fun _ => (sb _ _ _ h).2⟩
  | injection v now =>
    rcases handleInjection_cases O cfg s v now with e | ⟨g, _, e⟩ <;> rw [step, e] at h
    · cases h; exact ⟨fun _ => nofun, fun _ => rfl⟩
    · exact ⟨(sb _ _ _ h).1, fun _ => (sb _ _ _ h).2⟩
  | observation o now => exact absurd rfl (hobs o now)
  | inbound bytes =>
    rcases handleInbound_cases O s bytes with e | ⟨v, g, _, _, _, _, _, e⟩ <;> rw [step, e] at h <;> cases h <;>
      exact ⟨fun _ => nofun, fun hb => absurd rfl (hb bytes)⟩
  | cleanup now room =>
    obtain ⟨_, hc, rfl⟩ := handleCleanup_ok_iff.1 h
    exact ⟨cleanupAll_no_vaa hc, fun _ => rfl⟩

theorem step_no_vaa_of_not_observation (h : step O cfg s e = .ok s' outs) (hobs : ∀ o now, e ≠ .observation o now)
    (b : Bytes) : Out.vaa b ∉ outs :=
  (step_of_not_observation h hobs).1 b

theorem step_db_eq_of_not_observation_of_not_inbound (h : step O cfg s e = .ok s' outs)
    (hobs : ∀ o now, e ≠ .observation o now) (hinb : ∀ b, e ≠ .inbound b) : s'.db = s.db :=
  (step_of_not_observation h hobs).2 hinb

end

theorem run_cons_iff {O : Oracle} {cfg : Config} {s sf : PState} {e : Event} {es : List Event} {outs : List (List Out)} :
    run O cfg s (e :: es) = .ok (sf, outs) ↔
      ∃ s' o os, step O cfg s e = .ok s' o ∧ run O cfg s' es = .ok (sf, os) ∧ outs = o :: os := by
  rw [run]
  cases step O cfg s e with
  | panic site => exact ⟨nofun, nofun⟩
  | ok s' o =>
    dsimp only
    constructor
    · intro h
      split at h
      · cases h
      · next hr =>
        cases h
        exact ⟨_, _, _, rfl, hr, rfl⟩
    · rintro ⟨_, _, _, h1, h2, rfl⟩
      cases h1
      rw [h2]

theorem run_append {O : Oracle} {cfg : Config} : ∀ (es1 : List Event) {s s1 sf : PState} {es2 : List Event}
    {o1 o2 : List (List Out)}, run O cfg s es1 = .ok (s1, o1) → run O cfg s1 es2 = .ok (sf, o2) →
    run O cfg s (es1 ++ es2) = .ok (sf, o1 ++ o2) := by
  intro es1
  induction es1 with
  | nil => intro s s1 sf es2 o1 o2 h1 h2; cases h1; exact h2
  | cons e es ih =>
    intro s s1 sf es2 o1 o2 h1 h2
    obtain ⟨s', o, os, hs, hrest, rfl⟩ := run_cons_iff.1 h1
    exact run_cons_iff.2 ⟨_, _, _, hs, ih hrest h2, rfl⟩

theorem run_getElem? {O : Oracle} {cfg : Config} {sf : PState} {os : List Out} : ∀ {es : List Event} {s : PState}
    {outs : List (List Out)} {k : Nat}, run O cfg s es = .ok (sf, outs) → outs[k]? = some os →
      ∃ e s1 outs1 s2, es[k]? = some e ∧ run O cfg s (es.take k) = .ok (s1, outs1) ∧ step O cfg s1 e = .ok s2 os := by
  intro es
  induction es with
  | nil => intro s outs k h hk; cases h; cases hk
  | cons x xs ih =>
    intro s outs k h hk
    obtain ⟨s', o, os', hs, hr, rfl⟩ := run_cons_iff.1 h
    cases k with
    | zero => cases hk; exact ⟨x, s, [], s', rfl, rfl, hs⟩
    | succ k =>
      obtain ⟨e, s1, outs1, s2, he, hr1, hs1⟩ := ih hr hk
      exact ⟨e, s1, o :: outs1, s2, he, run_cons_iff.2 ⟨_, _, _, hs, hr1, rfl⟩, hs1⟩

/-- The window events of C02, shared by Lemmas/Confluence and Lemmas/Frame: the chain message `m` (any time), and observations for
its digest `d`. -/
def WinEvent (d : Bytes) (m : Msg) (e : Event) : Prop :=
  (∃ now, e = .message m now) ∨ (∃ o now, e = .observation o now ∧ o.hash = d)

/-- Per-entry invariant: recorded signatures are 65 bytes long (else `obsFinish` hits `panic("invalid sig len")`); an entry that
carries the node's own observation message also carries the node's own VAA (else `retryAct` dereferences a nil `ourVAA`). -/
def EntryOk (st : VState) : Prop :=
  (∀ p ∈ st.signatures, p.2.length = 65) ∧ (st.ourMsg.isSome → st.ourVAA.isSome)

/-- State invariant: every entry is `EntryOk`, and entries exist only once a guardian set is known (else the cleanup dereferences a
nil guardian set) — true because `handleInjection` drops injections while no set is known. -/
def Inv (s : PState) : Prop :=
  (∀ p ∈ s.agg, EntryOk p.2) ∧ (s.agg ≠ [] → s.gs.isSome)

theorem inv_init : Inv {} := ⟨fun _ => nofun, fun h => absurd rfl h⟩

theorem Inv.of_agg_eq {s s' : PState} (h : Inv s) (ha : s'.agg = s.agg) (hg : s.gs.isSome → s'.gs.isSome) : Inv s' :=
  ⟨ha ▸ h.1, fun hne => hg (h.2 (ha ▸ hne))⟩

theorem EntryOk.submitted {st : VState} (h : EntryOk st) (b : Bool) : EntryOk { st with submitted := b } := h

theorem inv_insert {s : PState} {d : Bytes} {st : VState} (h : Inv s) (hst : EntryOk st) (hgs : s.gs.isSome) :
    Inv { s with agg := alInsert d st s.agg } :=
  ⟨forall_mem_alInsert hst h.1, fun _ => hgs⟩

/-- What is assumed of the crypto oracle (trusted base): the node's signer does not fail, and `ecrecover`
succeeds only on 65-byte signatures. -/
structure OracleOk (O : Oracle) : Prop where
  sign_ok : ∀ d, (O.sign d).isSome
  recover_len : ∀ h s a, O.recover h s = some a → s.length = 65

def OkInv (r : Res) : Prop := ∃ s' outs, r = .ok s' outs ∧ Inv s'

theorem entryOrFresh_ok {s : PState} (h : Inv s) (d : Bytes) (now : Int) : EntryOk (entryOrFresh s d now) := by
  unfold entryOrFresh
  split
  · next st hl => exact h.1 _ (List.mem_of_lookup_eq_some hl)
  · exact ⟨fun _ => nofun, nofun⟩

theorem signBroadcast_inv {O : Oracle} (hO : OracleOk O) (cfg : Config) {s : PState} (h : Inv s) (hgs : s.gs.isSome)
    (v : Vaa) (tx : Bytes) (now : Int) : OkInv (signBroadcast O cfg s v tx now) := by
  rcases signBroadcast_cases O cfg s v tx now with ⟨hn, _⟩ | ⟨sig, _, e⟩
  · exact absurd hn (Option.isSome_iff_ne_none.1 (hO.sign_ok _))
  · exact ⟨_, _, e, inv_insert h ⟨(entryOrFresh_ok h _ now).1, fun _ => rfl⟩ hgs⟩

theorem gateSet_some_gs {s : PState} (h : Inv s) {d : Bytes} {g : GSet} (hg : gateSet s d = some g) : s.gs.isSome := by
  unfold gateSet at hg
  split at hg
  · next st hl => exact h.2 (List.ne_nil_of_mem (List.mem_of_lookup_eq_some hl))
  · exact hg ▸ rfl

theorem recordSig_ok {st : VState} (h : EntryOk st) {a : Addr} {sig : Bytes} (hl : sig.length = 65) :
    EntryOk (recordSig st a sig) :=
  ⟨forall_mem_alInsert hl h.1, h.2⟩

theorem obsFinish_inv {s : PState} (h : Inv s) (hgs : s.gs.isSome) {d : Bytes} {gs : GSet} {st1 : VState}
    (hst : EntryOk st1) : OkInv (obsFinish s d gs st1) := by
  rcases obsFinish_cases d gs st1 with ⟨hb, _⟩ | ⟨_, e⟩ | ⟨v, _, _, _, e⟩
  · rw [badSigLen_false hst.1] at hb
    cases hb
  · exact ⟨_, _, e s, inv_insert h hst hgs⟩
  · exact ⟨_, _, e s, (inv_insert h (hst.submitted true) hgs).of_agg_eq rfl id⟩

theorem handleCleanup_inv {s : PState} (h : Inv s) (now : Int) (room : Nat) : OkInv (handleCleanup s now room) := by
  have hnp : ∀ p ∈ s.agg, ∀ r site, cleanupEntry s.gs s.db now r p.2 ≠ .panic site := by
    intro p hp r site hc
    rcases cleanupEntry_panic_cases hc with hg | ⟨o, ho, hv⟩
    · exact Option.isSome_iff_ne_none.1 (h.2 (List.ne_nil_of_mem hp)) hg
    · exact Option.isSome_iff_ne_none.1 ((h.1 p hp).2 (ho ▸ rfl)) hv
  obtain ⟨l', outs, he⟩ := cleanupAll_total s.gs s.db now s.agg room hnp
  have hs := (cleanupAll_lift (P := fun _ st' => EntryOk st' ∧ s.gs.isSome) (Q := fun _ => True) ?_ he).1
  · refine ⟨_, _, handleCleanup_ok_iff.2 ⟨l', he, rfl⟩, fun p hp => (hs p hp).1, fun hne => ?_⟩
    obtain ⟨p, hp⟩ := List.exists_mem_of_ne_nil _ hne
    exact (hs p hp).2
  · intro d st r st' o hm hk
    obtain ⟨_, _, _, rfl⟩ := cleanupEntry_keep_eq_with hk
    exact ⟨⟨h.1 _ hm, h.2 (List.ne_nil_of_mem hm)⟩, fun _ _ => trivial⟩

theorem step_inv {O : Oracle} (hO : OracleOk O) (cfg : Config) {s : PState} (h : Inv s) (e : Event) :
    OkInv (step O cfg s e) := by
  cases e with
  | setUpdate g => exact ⟨_, [], rfl, h.of_agg_eq rfl fun _ => rfl⟩
  | message m now =>
    rcases handleMessage_cases O cfg s m now with e | ⟨g, hg, e⟩ <;> rw [step, e]
    · exact ⟨s, [], rfl, h⟩
    · exact signBroadcast_inv hO cfg h (hg ▸ rfl) ..
  | injection v now =>
    rcases handleInjection_cases O cfg s v now with e | ⟨g, hg, e⟩ <;> rw [step, e]
    · exact ⟨s, [], rfl, h⟩
    · exact signBroadcast_inv hO cfg h (hg ▸ rfl) ..
  | observation o now =>
    rcases handleObservation_cases O s o now with ⟨_, e⟩ | ⟨g, hg, hrec, _, e⟩ <;> rw [step, e]
    · exact ⟨s, [], rfl, h⟩
    · exact obsFinish_inv h (gateSet_some_gs h hg) (recordSig_ok (entryOrFresh_ok h _ _) (hO.recover_len _ _ _ hrec))
  | inbound b =>
    rcases handleInbound_cases O s b with e | ⟨v, g, _, _, _, _, _, e⟩ <;> rw [step, e]
    · exact ⟨s, [], rfl, h⟩
    · exact ⟨_, [], rfl, h.of_agg_eq rfl id⟩
  | cleanup now room => exact handleCleanup_inv h now room

theorem run_inv {O : Oracle} (hO : OracleOk O) (cfg : Config) : ∀ (es : List Event) {s : PState}, Inv s →
    ∃ sf outs, run O cfg s es = .ok (sf, outs) ∧ Inv sf := by
  intro es
  induction es with
  | nil => intro s h; exact ⟨s, [], rfl, h⟩
  | cons e es ih =>
    intro s h
    obtain ⟨s', outs, he, hi⟩ := step_inv hO cfg h e
    obtain ⟨sf, os, hr, hf⟩ := ih hi
    exact ⟨sf, outs :: os, run_cons_iff.2 ⟨_, _, _, he, hr, rfl⟩, hf⟩

end Whv.Proc
