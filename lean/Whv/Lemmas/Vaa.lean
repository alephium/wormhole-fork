import Whv.Model.Vaa
/-! `readSigs` / `readBody` undo `sigsBytes` / `serializeBody` and accept nothing else: the pieces of the C05 round trip, both ways. -/
namespace Whv

theorem unbe_be1 {n : Nat} (h : n < 256) : unbe (be 1 n) = n := unbe_be_of_lt (by simpa using h)

theorem sigsBytes_length {sigs : List Sig} (h : ∀ s ∈ sigs, s.WF) : (sigsBytes sigs).length = 66 * sigs.length := by
  induction sigs with
  | nil => rfl
  | cons s ss ih =>
    rw [List.forall_mem_cons] at h
    simp only [sigsBytes, sigBytes, List.length_append, be_length, List.length_cons, ih h.2, h.1.2]
    omega

theorem readSigs_sigsBytes {sigs : List Sig} {rest : Bytes} (h : ∀ s ∈ sigs, s.WF) :
    readSigs sigs.length (sigsBytes sigs ++ rest) = some (sigs, rest) := by
  induction sigs with
  | nil => rfl
  | cons s ss ih =>
    rw [List.forall_mem_cons] at h
    simp only [sigsBytes, sigBytes, List.append_assoc, List.length_cons, readSigs, takeN_be,
      takeN_append_of_length h.1.2, ih h.2, unbe_be1 h.1.1]

theorem readSigs_some {n : Nat} {bs : Bytes} {sigs : List Sig} {rest : Bytes} :
    readSigs n bs = some (sigs, rest) → bs = sigsBytes sigs ++ rest ∧ sigs.length = n ∧ ∀ s ∈ sigs, s.WF := by
  fun_induction readSigs n bs generalizing sigs with
  | case1 => rintro ⟨⟩; exact ⟨rfl, rfl, nofun⟩
  -- index byte, 65 signature bytes and the remaining records all read
  | case5 n bs i r1 e1 s r2 e2 ss r3 e3 ih =>
    rintro ⟨⟩
    have ⟨a1, h1⟩ := takeN_some_be e1
    have ⟨a2, h2⟩ := takeN_some e2
    have ⟨a3, l3, w3⟩ := ih e3
    refine ⟨?_, congrArg _ l3, List.forall_mem_cons.2 ⟨⟨by simpa using h1, h2⟩, w3⟩⟩
    rw [a1, a2, a3, sigsBytes, sigBytes, List.append_assoc, List.append_assoc]
  | _ => nofun

theorem readBody_serializeBody {b : Body} (h : b.WF) (hp : b.payload ≠ []) :
    readBody (serializeBody b) = some b := by
  obtain ⟨h1, h2, h3, h4, h5, h6, h7⟩ := h
  simp only [readBody, serializeBody, takeN_be, takeN_append_of_length h5,
    unbe_be_of_lt h1, unbe_be_of_lt h2, unbe_be_of_lt h3, unbe_be_of_lt h4, unbe_be_of_lt h6, unbe_be_of_lt h7, hp, if_false]

theorem readBody_some {r : Bytes} {b : Body} : readBody r = some b → r = serializeBody b ∧ b.WF ∧ b.payload ≠ [] := by
  fun_cases readBody r with
  -- all seven fixed fields read and something left for the payload
  | case9 ts r1 e1 nonce r2 e2 ec r3 e3 tc r4 e4 em r5 e5 sq r6 e6 cl r7 e7 hne =>
    rintro ⟨⟩
    have ⟨a1, h1⟩ := takeN_some_be e1
    have ⟨a2, h2⟩ := takeN_some_be e2
    have ⟨a3, h3⟩ := takeN_some_be e3
    have ⟨a4, h4⟩ := takeN_some_be e4
    have ⟨a5, h5⟩ := takeN_some e5
    have ⟨a6, h6⟩ := takeN_some_be e6
    have ⟨a7, h7⟩ := takeN_some_be e7
    exact ⟨by rw [a1, a2, a3, a4, a5, a6, a7, serializeBody], ⟨h1, h2, h3, h4, h5, h6, h7⟩, hne⟩
  | _ => nofun

theorem serializeBody_length {b : Body} (h : b.WF) : (serializeBody b).length = 53 + b.payload.length := by
  simp only [serializeBody, List.length_append, be_length, (h.2.2.2.2.1 : b.emitter.length = 32)]
  omega

/-- The driver's readers (`contractBody`, `wireSigs`) skip version and set index in one five-byte read, then take the count byte. -/
theorem takeN_five_marshal (v : Vaa) :
    takeN 5 (marshal v) =
      some (be 1 v.version ++ be 4 v.gsIndex, be 1 v.sigs.length ++ (sigsBytes v.sigs ++ serializeBody v.body)) := by
  rw [marshal, ← List.append_assoc]
  exact takeN_append_of_length (by rw [List.length_append, be_length, be_length])

end Whv
