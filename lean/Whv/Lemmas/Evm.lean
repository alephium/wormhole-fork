import Whv.Model.Evm
import Whv.Lemmas.Basic
/-!
# Event sequences over the EVM watcher model, and lemmas about the model (C10)

The file opens with the vocabulary of C10's statements. `Ev` is what can happen to the watcher's pending set: the chain emits a
log (the node hands it over iff it matches the subscription filter the watcher sent — the honest-node assumption of the primary
path), or a head is processed with whatever the node answers for receipts at that moment.  Heads are arbitrary naturals: nothing
relates one head to the next, so every statement about `run` holds "however far the observed head advances between two polls".

Then what each model function does on each form of input, and last what events and runs preserve.
-/
namespace Whv.Evm
open Whv

/-- A log on the chain, with what the ABI decoder makes of it and the timestamp of its block. -/
structure ChainLog where
  addr : Bytes
  topics : List Bytes
  ev : Event
  bt : Nat

/-- The `eth_subscribe` filter sent by `WatchLogMessagePublished` (contract address, topic0); the tie checks it (`sub-filter`). -/
def nodeMatches (cfg : Cfg) (topic : Bytes) (l : ChainLog) : Bool :=
  l.addr == cfg.contract && l.topics.head? == some topic

inductive Ev
  | log (l : ChainLog)
  | head (H : Nat) (safe : Bool) (rc : Bytes → RcAns)

/-- One event: new pending set and the entries handed to the signing pipeline. -/
def stepEv (cfg : Cfg) (topic : Bytes) (s : List Pend) : Ev → List Pend × List Pend
  | .log l => if nodeMatches cfg topic l then (insertPend (mkPend cfg l.ev l.bt) s, []) else (s, [])
  | .head H safe rc => ((processHead cfg safe H rc s).pending, (processHead cfg safe H rc s).forwarded)

/-- Final pending set and, per event, what was forwarded. -/
def run (cfg : Cfg) (topic : Bytes) (s : List Pend) : List Ev → List Pend × List (List Pend)
  | [] => (s, [])
  | e :: es => ((run cfg topic (stepEv cfg topic s e).1 es).1, (stepEv cfg topic s e).2 :: (run cfg topic (stepEv cfg topic s e).1 es).2)

/-- How often an entry with key `k` was handed over. -/
def fwdCount (k : Key) (fs : List (List Pend)) : Nat := (fs.flatten.filter (fun q => q.key = k)).length

/-- uint64 sums that the loop computes for this entry do not wrap. -/
def NoOverflow (cfg : Cfg) (p : Pend) : Prop := p.height + p.msg.cl + cfg.maxWait < U64

/-- The answer "successful receipt in the block the log was seen in". -/
def goodRc (p : Pend) : RcAns := ⟨some ⟨1, p.key.bh⟩, .none⟩

/-- The event does not deliver a log with `p`'s key again. -/
def NoRelog (cfg : Cfg) (topic : Bytes) (p : Pend) : Ev → Prop
  | .log l => nodeMatches cfg topic l = true → (mkPend cfg l.ev l.bt).key ≠ p.key
  | .head _ _ _ => True

/-- The event does not deliver `p`'s key again, and whenever a head is processed the receipt still points to `p`'s block and the lookup succeeds. -/
def Stable (cfg : Cfg) (topic : Bytes) (p : Pend) : Ev → Prop
  | .log l => nodeMatches cfg topic l = true → (mkPend cfg l.ev l.bt).key ≠ p.key
  | .head _ _ rc => rc p.msg.tx = goodRc p

/-- The event is a processed head that has reached `p`'s depth. -/
def readyAt (cfg : Cfg) (p : Pend) : Ev → Bool
  | .log _ => false
  | .head H safe _ => decide (p.height + expConf cfg safe p ≤ H % U64)

def UniqueKeys (s : List Pend) : Prop := (s.map (·.key)).Nodup

variable {cfg : Cfg} {topic : Bytes} {safe : Bool} {H : Nat} {a : RcAns} {rc : Bytes → RcAns} {p q : Pend} {s : List Pend}

/-! ### What each model function does

`classify` first (for an entry whose uint64 sums do not wrap, so that they can be read as plain sums), then `processHead`,
`insertPend`, `stepEv`, the poller and `settle`, the re-observation path. -/

theorem expConf_le (cfg : Cfg) (safe : Bool) (p : Pend) : expConf cfg safe p ≤ p.msg.cl := by
  unfold expConf
  split
  · exact Nat.le_refl _
  · exact Nat.zero_le _

theorem add64_eq_add {a b : Nat} (h : a + b < U64) : add64 a b = a + b := Nat.mod_eq_of_lt h

theorem add64_window (safe : Bool) (h : NoOverflow cfg p) :
    add64 (p.height + expConf cfg safe p) cfg.maxWait = p.height + expConf cfg safe p + cfg.maxWait :=
  add64_eq_add (Nat.lt_of_le_of_lt (Nat.add_le_add_right (Nat.add_le_add_left (expConf_le cfg safe p) _) _) h)

theorem add64_conf (safe : Bool) (h : NoOverflow cfg p) :
    add64 p.height (expConf cfg safe p) = p.height + expConf cfg safe p :=
  add64_eq_add (Nat.lt_of_le_of_lt (Nat.add_le_add_left (expConf_le cfg safe p) _) (Nat.lt_of_le_of_lt (Nat.le_add_right _ _) h))

theorem classify_not_ready (hno : NoOverflow cfg p) (h : ¬ p.height + expConf cfg safe p ≤ H) :
    classify cfg safe H a p = .wait := by
  rw [classify, add64_conf safe hno]
  exact if_neg h

theorem classify_good (hno : NoOverflow cfg p) (h : p.height + expConf cfg safe p ≤ H) :
    classify cfg safe H (goodRc p) p = .confirmed := by
  rw [classify, add64_conf safe hno]
  simp [h, goodRc]

theorem classify_transient (hno : NoOverflow cfg p) (h : p.height + expConf cfg safe p ≤ H) (ha : a.err = .other) :
    classify cfg safe H a p = if p.height + expConf cfg safe p + cfg.maxWait ≤ H then .timeout else .retry := by
  obtain ⟨tx, err⟩ := a
  subst ha
  rw [classify, add64_conf safe hno, add64_window safe hno, if_pos h]
  cases tx <;> rfl

/- The `→` halves below walk the branches of `classify` once (`fun_cases`): every branch but the one that yields the verdict in
question dies on a constructor clash, and the survivor's branch conditions are the claim. -/

theorem classify_eq_confirmed_iff (hno : NoOverflow cfg p) :
    classify cfg safe H a p = .confirmed ↔ p.height + expConf cfg safe p ≤ H ∧ a = goodRc p := by
  constructor
  · rw [← add64_conf safe hno]
    fun_cases classify cfg safe H a p <;> intro h <;> cases h
    next hr r herr htx hs hb =>
      refine ⟨hr, ?_⟩
      obtain ⟨tx, err⟩ := a
      obtain ⟨st, bh⟩ := r
      simp only [goodRc, Decidable.not_not] at *
      subst htx herr hs hb
      rfl
  · rintro ⟨hr, rfl⟩
    exact classify_good hno hr

theorem classify_keeps_iff (hno : NoOverflow cfg p) :
    (classify cfg safe H a p).keeps = true ↔
      (p.height + expConf cfg safe p ≤ H → a.err = .other ∧ H < p.height + expConf cfg safe p + cfg.maxWait) := by
  constructor
  · rw [← add64_window safe hno, ← add64_conf safe hno]
    fun_cases classify cfg safe H a p <;> intro h <;> cases h
    next hr herr hw => exact fun _ => ⟨herr, Nat.not_le.1 hw⟩    -- `.retry`
    next hr => exact fun h => absurd h hr                        -- `.wait`
  · intro h
    by_cases hr : p.height + expConf cfg safe p ≤ H
    · rw [classify_transient hno hr (h hr).1, if_neg (Nat.not_le.2 (h hr).2)]
      rfl
    · rw [classify_not_ready hno hr]
      rfl

theorem classify_eq_timeout_iff (hno : NoOverflow cfg p) :
    classify cfg safe H a p = .timeout ↔ a.err = .other ∧ p.height + expConf cfg safe p + cfg.maxWait ≤ H := by
  constructor
  · rw [← add64_window safe hno, ← add64_conf safe hno]
    fun_cases classify cfg safe H a p <;> intro h <;> cases h
    next hr herr hw => exact ⟨herr, hw⟩
  · rintro ⟨ha, hw⟩
    rw [classify_transient hno (Nat.le_trans (Nat.le_add_right _ _) hw) ha, if_pos hw]

theorem classify_eq_orphaned_iff (hno : NoOverflow cfg p) :
    classify cfg safe H a p = .orphaned ↔
      p.height + expConf cfg safe p ≤ H ∧ ((a.tx = none ∧ a.err = .none) ∨ a.err = .noResult ∨ a.err = .notFound) := by
  constructor
  · rw [← add64_conf safe hno]
    fun_cases classify cfg safe H a p <;> intro h <;> cases h
    next hr herr htx => exact ⟨hr, Or.inl ⟨htx, herr⟩⟩
    next hr herr => exact ⟨hr, Or.inr (Or.inl herr)⟩
    next hr herr => exact ⟨hr, Or.inr (Or.inr herr)⟩
  · obtain ⟨tx, err⟩ := a
    rintro ⟨hr, ⟨rfl, rfl⟩ | rfl | rfl⟩ <;> rw [classify, add64_conf safe hno, if_pos hr]
    -- `none, .none` has reduced; for the two errors the match waits for the shape of `tx`
    · cases tx <;> rfl
    · cases tx <;> rfl

theorem classify_eq_failed_iff (hno : NoOverflow cfg p) :
    classify cfg safe H a p = .failed ↔
      p.height + expConf cfg safe p ≤ H ∧ ∃ r, a.tx = some r ∧ a.err = .none ∧ r.status ≠ 1 := by
  constructor
  · rw [← add64_conf safe hno]
    fun_cases classify cfg safe H a p <;> intro h <;> cases h
    next hr r herr htx hs => exact ⟨hr, r, htx, herr, hs⟩
  · obtain ⟨tx, err⟩ := a
    rintro ⟨hr, r, rfl, rfl, hs⟩
    rw [classify, add64_conf safe hno, if_pos hr]
    exact if_pos hs

theorem classify_eq_mismatch_iff (hno : NoOverflow cfg p) :
    classify cfg safe H a p = .mismatch ↔
      p.height + expConf cfg safe p ≤ H ∧ ∃ r, a.tx = some r ∧ a.err = .none ∧ r.status = 1 ∧ r.bh ≠ p.key.bh := by
  constructor
  · rw [← add64_conf safe hno]
    fun_cases classify cfg safe H a p <;> intro h <;> cases h
    next hr r herr htx hs hb => exact ⟨hr, r, htx, herr, Decidable.not_not.1 hs, hb⟩
  · obtain ⟨tx, err⟩ := a
    rintro ⟨hr, r, rfl, rfl, hs, hb⟩
    rw [classify, add64_conf safe hno, if_pos hr]
    exact (if_neg (not_not_intro hs)).trans (if_pos hb)

/-- The answer counts against an entry seen in block `bh`: the transaction is not found (three shapes), failed, or sits in
another block. Spelled out in `c10_dropped` and `c10_removed_only_for_cause`. -/
def Against (a : RcAns) (bh : Bytes) : Prop :=
  (a.tx = none ∧ a.err = .none) ∨ a.err = .noResult ∨ a.err = .notFound ∨
    ∃ r, a.tx = some r ∧ a.err = .none ∧ (r.status ≠ 1 ∨ r.bh ≠ bh)

/-- The three kinds of answer: against the entry, a transient error, the good receipt. -/
theorem against_iff : Against a p.key.bh ↔ a.err ≠ .other ∧ a ≠ goodRc p := by
  unfold Against
  constructor
  · intro h
    refine ⟨fun ho => ?_, fun hg => ?_⟩
    · rw [ho] at h
      rcases h with ⟨-, h⟩ | h | h | ⟨-, -, h, -⟩ <;> cases h
    · subst hg
      rcases h with ⟨⟨⟩, -⟩ | ⟨⟨⟩⟩ | ⟨⟨⟩⟩ | ⟨r, ⟨⟩, -, hr⟩
      exact hr.elim (fun h => h rfl) (fun h => h rfl)
  · obtain ⟨tx, err⟩ := a
    rintro ⟨ho, hg⟩
    cases err with
    | other => exact absurd rfl ho
    | noResult => exact Or.inr (Or.inl rfl)
    | notFound => exact Or.inr (Or.inr (Or.inl rfl))
    | none =>
      cases tx with
      | none => exact Or.inl ⟨rfl, rfl⟩
      | some r =>
        refine Or.inr (Or.inr (Or.inr ⟨r, rfl, rfl, Decidable.not_and_iff_not_or_not.1 fun h => hg ?_⟩))
        rw [goodRc, ← h.1, ← h.2]

theorem mem_forwarded_iff (hno : NoOverflow cfg q) :
    q ∈ (processHead cfg safe H rc s).forwarded ↔
      q ∈ s ∧ q.height + expConf cfg safe q ≤ H % U64 ∧ rc q.msg.tx = goodRc q := by
  rw [← classify_eq_confirmed_iff hno]
  exact List.mem_filter.trans (and_congr_right fun _ => decide_eq_true_iff)

theorem mem_pending_iff (hno : NoOverflow cfg p) :
    p ∈ (processHead cfg safe H rc s).pending ↔
      p ∈ s ∧ (p.height + expConf cfg safe p ≤ H % U64 →
        (rc p.msg.tx).err = .other ∧ H % U64 < p.height + expConf cfg safe p + cfg.maxWait) := by
  rw [← classify_keeps_iff hno]
  exact List.mem_filter

theorem mem_insertPend : q ∈ insertPend p s ↔ q = p ∨ (q ∈ s ∧ q.key ≠ p.key) := by
  simp [insertPend]

theorem mem_insertPend_self : p ∈ insertPend p s := List.mem_cons_self

theorem mem_insertPend_of_ne (hk : q.key ≠ p.key) (h : q ∈ s) : q ∈ insertPend p s :=
  mem_insertPend.2 (Or.inr ⟨h, hk⟩)

theorem mem_of_mem_insert_ne {s : List Pend} {p q : Pend} (hk : q.key ≠ p.key) (h : p ∈ insertPend q s) : p ∈ s := by
  rcases mem_insertPend.1 h with rfl | h
  · exact absurd rfl hk
  · exact h.1

theorem nodeMatches_iff {l : ChainLog} :
    nodeMatches cfg topic l = true ↔ l.addr = cfg.contract ∧ l.topics.head? = some topic :=
  Bool.and_eq_true_iff.trans (and_congr beq_iff_eq beq_iff_eq)

theorem stepEv_log {l : ChainLog} :
    stepEv cfg topic s (.log l) = (if nodeMatches cfg topic l then insertPend (mkPend cfg l.ev l.bt) s else s, []) := by
  rw [stepEv]
  split <;> rfl

theorem stepEv_head :
    stepEv cfg topic s (.head H safe rc) =
      (s.filter (fun p => (classify cfg safe (H % U64) (rc p.msg.tx) p).keeps),
       s.filter (fun p => classify cfg safe (H % U64) (rc p.msg.tx) p = .confirmed)) := rfl

theorem mem_stepEv {e : Ev} (h : q ∈ (stepEv cfg topic s e).1) :
    q ∈ s ∨ ∃ l, e = .log l ∧ nodeMatches cfg topic l = true ∧ q = mkPend cfg l.ev l.bt := by
  cases e with
  | log l =>
    rw [stepEv_log] at h
    split at h
    · next hm =>
      rcases mem_insertPend.1 h with rfl | ⟨h, -⟩
      · exact Or.inr ⟨l, rfl, hm, rfl⟩
      · exact Or.inl h
    · exact Or.inl h
  | head H safe rc => exact Or.inl (List.mem_filter.1 h).1

theorem mem_of_forwarded {e : Ev} (h : q ∈ (stepEv cfg topic s e).2) : q ∈ s := by
  cases e with
  | log l =>
    rw [stepEv_log] at h
    cases h
  | head H safe rc => exact (List.mem_filter.1 h).1

theorem readyAt_head : readyAt cfg p (.head H safe rc) = true ↔ p.height + expConf cfg safe p ≤ H % U64 :=
  decide_eq_true_iff

theorem fwdCount_cons (k : Key) (f : List Pend) (fs : List (List Pend)) :
    fwdCount k (f :: fs) = (f.filter (fun q => q.key = k)).length + fwdCount k fs := by
  simp [fwdCount, List.filter_append]

theorem fwdCount_eq_zero {k : Key} {fs : List (List Pend)} (h : ∀ f ∈ fs, ∀ q ∈ f, q.key ≠ k) : fwdCount k fs = 0 := by
  rw [fwdCount, List.length_eq_zero_iff, List.filter_eq_nil_iff]
  intro q hq
  obtain ⟨f, hf, hqf⟩ := List.mem_flatten.1 hq
  simpa using h f hf q hqf

theorem getBlock_eq_some_iff {ans : BlockAns} {safe s : Bool} {n : Nat} :
    getBlock ans safe = some (n, s) ↔ ans = .ok n ∧ s = safe := by
  cases ans <;> simp [getBlock, eq_comm]

theorem pollBlocks_ok (last n : Nat) (safe : Bool) :
    pollBlocks last (.ok n) safe = if last ≥ n then (last, none, false) else (n, some (n, safe), false) := rfl

theorem settle_cases (cfg : Cfg) (st : St) (W : Nat) (rc : Bytes → RcAns) :
    (st.enabled = true ∧ st.last < W ∧
      settle cfg st W rc =
        ({ pending := (processHead cfg false W rc st.pending).pending,
           enabled := !(processHead cfg false W rc st.pending).pending.isEmpty, last := W },
         some (processHead cfg false W rc st.pending))) ∨
    (¬ (st.enabled = true ∧ st.last < W) ∧ settle cfg st W rc = (st, none)) := by
  unfold settle settleWith
  split
  · next h => exact Or.inl ⟨(Bool.and_eq_true_iff.1 h).1, of_decide_eq_true (Bool.and_eq_true_iff.1 h).2, rfl⟩
  · next h => exact Or.inr ⟨fun ⟨he, hW⟩ => h (Bool.and_eq_true_iff.2 ⟨he, decide_eq_true hW⟩), rfl⟩

section
variable {contract topic : Bytes} {chainId t : Nat} {logs : List (Option RLog)} {acc msgs : List Msg}

theorem evtLoop_invariant {P : Msg → Prop} (h : evtLoop contract topic chainId t logs acc = .ok msgs)
    (hacc : ∀ m ∈ acc, P m)
    (hlog : ∀ l ev, some l ∈ logs → l.addr = contract → l.topics.head? = some topic → l.parse = some ev →
      P (mkMsg chainId ev t)) : ∀ m ∈ msgs, P m := by
  -- branches of `evtLoop`: end of list; nil log; other contract; no topics; other topic; parse error; a message is appended
  fun_induction evtLoop contract topic chainId t logs acc with
  | case1 acc => cases h; exact fun m hm => hacc m (List.mem_reverse.1 hm)
  | case2 rest acc ih => exact ih h hacc fun l ev hl => hlog l ev (List.mem_cons_of_mem _ hl)
  | case3 l rest acc _ ih => exact ih h hacc fun l ev hl => hlog l ev (List.mem_cons_of_mem _ hl)
  | case4 => cases h
  | case5 l rest acc _ t0 tail _ _ ih => exact ih h hacc fun l ev hl => hlog l ev (List.mem_cons_of_mem _ hl)
  | case6 => cases h
  | case7 l rest acc haddr t0 tail htop ht0 ev hparse ih =>
    refine ih h (List.forall_mem_cons.2 ⟨?_, hacc⟩) fun l ev hl => hlog l ev (List.mem_cons_of_mem _ hl)
    exact hlog l ev List.mem_cons_self (Decidable.not_not.1 haddr) (by rw [htop, Decidable.not_not.1 ht0]; rfl) hparse

theorem evtLoop_no_panic (h : ∀ l, some l ∈ logs → l.addr = contract → l.topics ≠ []) :
    evtLoop contract topic chainId t logs acc ≠ .panic := by
  -- same branches; only "no topics" panics
  fun_induction evtLoop contract topic chainId t logs acc with
  | case1 => nofun
  | case2 rest acc ih => exact ih fun l hl => h l (List.mem_cons_of_mem _ hl)
  | case3 l rest acc _ ih => exact ih fun l hl => h l (List.mem_cons_of_mem _ hl)
  | case4 l rest acc haddr htop => exact absurd htop (h l List.mem_cons_self (Decidable.not_not.1 haddr))
  | case5 l rest acc _ t0 tail _ _ ih => exact ih fun l hl => h l (List.mem_cons_of_mem _ hl)
  | case6 => nofun
  | case7 l rest acc _ t0 tail _ _ ev _ ih => exact ih fun l hl => h l (List.mem_cons_of_mem _ hl)

theorem messageEvents_eq_ok_iff {rc : Option Receipt} {rcErr : Bool} {bt : Option Nat} {bn' : Nat} :
    messageEvents contract topic chainId rc rcErr bt = .ok bn' msgs ↔
      ∃ r t bn, rc = some r ∧ rcErr = false ∧ r.status = 1 ∧ bt = some t ∧
        evtLoop contract topic chainId t r.logs [] = .ok msgs ∧ r.bn = some bn ∧ bn' = bn % U64 := by
  constructor
  · fun_cases messageEvents contract topic chainId rc rcErr bt <;> intro h <;> cases h
    next herr r hst t bn hbn hloop =>
      exact ⟨r, t, bn, rfl, Bool.not_eq_true _ ▸ herr, Decidable.not_not.1 hst, rfl, hloop, hbn, rfl⟩
  · rintro ⟨r, t, bn, rfl, rfl, hst, rfl, hloop, hbn, rfl⟩
    simp [messageEvents, hst, hloop, hbn]

end

theorem reobsDecide_eq_fwd_iff {N bn : Nat} {m : Msg} :
    reobsDecide cfg N bn m = .fwd ↔ N ≠ 0 ∧ add64 bn (if cfg.wait then m.cl else 0) ≤ N := by
  constructor
  · fun_cases reobsDecide cfg N bn m <;> intro h <;> cases h
    next hz _ hle => exact ⟨hz, hle⟩
  · rintro ⟨hz, hle⟩
    rw [reobsDecide, if_neg hz]
    exact if_pos hle

theorem reobsForwarded_ok (cfg : Cfg) (n bn : Nat) (msgs : List Msg) :
    reobsForwarded cfg (some n) (.ok bn msgs) = msgs.filter (fun m => reobsDecide cfg (n % U64) bn m = .fwd) := by
  simp [reobsForwarded, reobserve, List.filter_map, Function.comp_def]

theorem exists_of_mem_reobsForwarded {bnAns : Option Nat} {evt : EvtRes} {m : Msg} (hm : m ∈ reobsForwarded cfg bnAns evt) :
    ∃ n bn msgs, bnAns = some n ∧ evt = .ok bn msgs ∧ m ∈ msgs ∧
      n % U64 ≠ 0 ∧ add64 bn (if cfg.wait then m.cl else 0) ≤ n % U64 := by
  rcases bnAns with _ | n
  · cases hm
  · cases evt with
    | ok bn msgs =>
      rw [reobsForwarded_ok] at hm
      obtain ⟨hmem, hd⟩ := List.mem_filter.1 hm
      exact ⟨n, bn, msgs, rfl, rfl, hmem, reobsDecide_eq_fwd_iff.1 (of_decide_eq_true hd)⟩
    | _ => cases hm

section
variable {k j n : Nat} {a b : NodeView}

theorem viewAt_of_le (h : j ≤ k) : viewAt k a b j = a := if_pos h

theorem viewAt_of_lt (h : k < j) : viewAt k a b j = b := if_neg (Nat.not_le.2 h)

theorem viewAt_min (hj : j ≤ n) : viewAt (min k n) a b j = viewAt k a b j := by
  simp only [viewAt, Nat.le_min, hj, and_true]

/-- Only the position of the change of branch among the three requests matters. -/
theorem reobsForwardedAcross_min (cfg : Cfg) (topic : Bytes) (k : Nat) (a b : NodeView) :
    reobsForwardedAcross cfg topic (min k 3) a b = reobsForwardedAcross cfg topic k a b := by
  unfold reobsForwardedAcross reobserveAcross
  rw [viewAt_min (by decide : 1 ≤ 3), viewAt_min (by decide : 2 ≤ 3), viewAt_min (Nat.le_refl 3)]

end

/-- Whatever `fetchAndUpdateGuardianSet` sends to the processor is the index and the key list the chain returned, unchanged
(used by the `gsf` op of the driver; the clause `guardian-set-altered-before-processor` is C07's). -/
theorem gsFetch_hands_on_chain_set (cur : Option Nat) (chain : Option (Nat × List Bytes)) (s : Nat × List Bytes)
    (h : (gsFetch cur chain).2.1 = some s) : chain = some s ∧ cur ≠ some s.1 ∧ (gsFetch cur chain).1 = some s.1 := by
  rcases chain with _ | ⟨idx, keys⟩
  · cases h
  · by_cases hc : cur = some idx
    · rw [gsFetch, if_pos hc] at h
      cases h
    · rw [gsFetch, if_neg hc] at h ⊢
      cases h
      exact ⟨rfl, hc, rfl⟩

/-! ### What events and runs preserve

Unique keys through every operation, the fate of one tracked entry at one event (`stepEv_stable`, the step of C10's exactly-once
induction), and any property of entries through a whole run (`run_invariant`). -/

theorem uniqueKeys_filter {f : Pend → Bool} (h : UniqueKeys s) : UniqueKeys (s.filter f) :=
  List.Nodup.sublist (List.Sublist.map _ List.filter_sublist) h

theorem uniqueKeys_insert (h : UniqueKeys s) : UniqueKeys (insertPend p s) := by
  refine List.nodup_cons.2 ⟨fun hm => ?_, uniqueKeys_filter h⟩
  obtain ⟨q, hq, hk⟩ := List.mem_map.1 hm
  exact of_decide_eq_true (List.mem_filter.1 hq).2 hk

theorem stepEv_unique (cfg : Cfg) (topic : Bytes) (s : List Pend) (e : Ev) (h : UniqueKeys s) : UniqueKeys (stepEv cfg topic s e).1 := by
  cases e with
  | log l =>
    rw [stepEv_log]
    split
    · exact uniqueKeys_insert h
    · exact h
  | head H safe rc => exact uniqueKeys_filter h

theorem uniqueKeys_settle {st : St} {W : Nat} (h : UniqueKeys st.pending) : UniqueKeys (settle cfg st W rc).1.pending := by
  rcases settle_cases cfg st W rc with ⟨_, _, hs⟩ | ⟨_, hs⟩ <;> rw [hs]
  · exact uniqueKeys_filter h
  · exact h

theorem eq_of_key_eq (h : UniqueKeys s) (hp : p ∈ s) (hq : q ∈ s) (hk : q.key = p.key) : q = p :=
  List.eq_of_nodup_map Pend.key h hq hp hk

theorem key_count (h : UniqueKeys s) (k : Key) :
    (s.filter (fun q => q.key = k)).length = if k ∈ s.map (·.key) then 1 else 0 := by
  rw [← h.count, List.count_eq_countP, List.countP_map, List.countP_eq_length_filter]
  rfl  -- `q.key == k` unfolds to `decide (q.key = k)`

theorem count_key_filter (h : UniqueKeys s) (hp : p ∈ s) (f : Pend → Bool) :
    ((s.filter f).filter (fun q => q.key = p.key)).length = if f p then 1 else 0 := by
  -- the filter keeps `p`'s key iff it keeps `p`
  have hmem : p.key ∈ (s.filter f).map (·.key) ↔ f p = true := by
    refine ⟨fun hm => ?_, fun hf => List.mem_map_of_mem (List.mem_filter.2 ⟨hp, hf⟩)⟩
    obtain ⟨q, hq, hk⟩ := List.mem_map.1 hm
    obtain ⟨hqs, hf⟩ := List.mem_filter.1 hq
    rwa [eq_of_key_eq h hp hqs hk] at hf
  rw [key_count (uniqueKeys_filter h)]
  exact ite_congr (propext hmem) (fun _ => rfl) fun _ => rfl

/-- One event, seen from a pending entry `p` whose key is not delivered again and whose receipt stays good: an event that is
ready for `p` hands it over and leaves nothing under its key; any other event hands nothing over under that key and keeps `p`. -/
theorem stepEv_stable {e : Ev} (hu : UniqueKeys s) (hp : p ∈ s) (hno : NoOverflow cfg p) (hst : Stable cfg topic p e) :
    ((stepEv cfg topic s e).2.filter (fun q => q.key = p.key)).length = (if readyAt cfg p e then 1 else 0) ∧
    (readyAt cfg p e = false → p ∈ (stepEv cfg topic s e).1) ∧
    (readyAt cfg p e = true → ∀ q ∈ (stepEv cfg topic s e).1, q.key ≠ p.key) := by
  cases e with
  | log l =>
    rw [stepEv_log]
    refine ⟨rfl, fun _ => ?_, nofun⟩
    split
    · next hm => exact mem_insertPend_of_ne (hst hm).symm hp
    · exact hp
  | head H safe rc =>
    have hrc : rc p.msg.tx = goodRc p := hst
    rw [stepEv_head]
    refine ⟨?_, fun hr => ?_, fun hr q hq hk => ?_⟩
    · have : decide (classify cfg safe (H % U64) (rc p.msg.tx) p = .confirmed) = readyAt cfg p (.head H safe rc) :=
        decide_eq_decide.2 ((classify_eq_confirmed_iff hno).trans (and_iff_left hrc))
      rw [count_key_filter hu hp, this]
    · refine List.mem_filter.2 ⟨hp, (classify_keeps_iff hno).2 fun h => ?_⟩
      rw [readyAt_head.2 h] at hr
      cases hr
    · obtain ⟨hq, hkeep⟩ := List.mem_filter.1 hq
      cases eq_of_key_eq hu hp hq hk
      have := ((classify_keeps_iff hno).1 hkeep (readyAt_head.1 hr)).1
      rw [hrc] at this
      cases this

theorem run_invariant {P : Pend → Prop} {evs : List Ev} (hs : ∀ q ∈ s, P q)
    (hl : ∀ e ∈ evs, ∀ l, e = .log l → nodeMatches cfg topic l = true → P (mkPend cfg l.ev l.bt)) :
    (∀ q ∈ (run cfg topic s evs).1, P q) ∧ ∀ f ∈ (run cfg topic s evs).2, ∀ q ∈ f, P q := by
  induction evs generalizing s with
  | nil => exact ⟨hs, nofun⟩
  | cons e es ih =>
    have hs' : ∀ q ∈ (stepEv cfg topic s e).1, P q := fun q hq =>
      (mem_stepEv hq).elim (hs q) fun ⟨l, he, hm, hq⟩ => hq ▸ hl e List.mem_cons_self l he hm
    obtain ⟨h1, h2⟩ := ih hs' fun e' he' => hl e' (List.mem_cons_of_mem _ he')
    refine ⟨h1, fun f hf q hq => ?_⟩
    rcases List.mem_cons.1 hf with rfl | hf
    · exact hs q (mem_of_forwarded hq)
    · exact h2 f hf q hq

end Whv.Evm
