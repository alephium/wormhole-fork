import Whv.Model.AlphWatch
/-!
# The Alephium watcher model function by function (C08, C09, C11)

For each function of `Whv/Model/AlphWatch.lean` that the properties speak about, what it returns: `isEventConfirmed` in
unbounded arithmetic, membership in the two results of `process` and the count of every event id through it, closed forms of
`handleConfirmed` and `acceptEv`, the page loop against a node that serves one log consistently, and membership in the
results of `govEvents` and `reobserve`.  The property files argue from these where their statements are about these
functions; the small tick functions (`fetchTick` and its variants, `stepOp`, `stepLife`, `stepPolled`, `stepBatch`, `restartW`)
and facts needed once (`headerOf` under `Held`, `addEvent` filing the event itself, a single page of `pageLoop`, `dropIds` of
an orphaned block) are worked out there.
-/
namespace List

theorem drop_take_append {α : Type u} (l : List α) {a b c : Nat} (hab : a ≤ b) (hbc : b ≤ c) :
    (l.drop a).take (b - a) ++ (l.drop b).take (c - b) = (l.drop a).take (c - a) := by
  obtain ⟨i, rfl⟩ := Nat.exists_eq_add_of_le hab
  obtain ⟨j, rfl⟩ := Nat.exists_eq_add_of_le hbc
  rw [Nat.add_sub_cancel_left, Nat.add_sub_cancel_left, Nat.add_assoc, Nat.add_sub_cancel_left, List.take_add,
    List.drop_drop]

theorem foldl_eq_self {α : Type u} {β : Type v} {f : α → β → α} {a : α} {l : List β} (h : ∀ b ∈ l, f a b = a) :
    l.foldl f a = a := by
  induction l with
  | nil => rfl
  | cons b rest ih =>
    rw [List.foldl_cons, h b List.mem_cons_self]
    exact ih fun b' hb' => h b' (List.mem_cons_of_mem _ hb')

theorem takeWhile_eq_self {α : Type u} {p : α → Bool} {l : List α} (h : ∀ a ∈ l, p a = true) : l.takeWhile p = l := by
  simpa using takeWhile_append_of_pos (l₂ := []) h

end List

namespace Whv.Alph
open Whv

theorem i32_id {x : Int} (h1 : -2147483648 ≤ x) (h2 : x < 2147483648) : i32 x = x := by
  unfold i32; omega

theorem i64_id {x : Int} (h1 : -9223372036854775808 ≤ x) (h2 : x < 9223372036854775808) : i64 x = x := by
  unfold i64; omega

/-- Block heights and timestamps for which the Go additions in `isEventConfirmed` do not wrap
(any real chain: heights below 2^31 - 256, millisecond timestamps below 2^63 - 2^23). -/
def InRange (cl : Nat) (h : Header) : Prop :=
  -2147483648 ≤ h.height ∧ h.height + cl < 2147483648 ∧
  -9223372036854775808 ≤ h.ts ∧ h.ts + (max cl 205 : Nat) * 16000 < 9223372036854775808

/-- Stated with the literals of `InRange`, which is what `omega` needs at the call sites (`MinimalConsistencyLevel` and
`BlockTimeMs` are 205 and 16000 by definition); `max cl 205` bounds both branches, which is why `InRange` asks for it. -/
theorem confDur_bounds (mainnet transfer : Bool) (cl : Nat) :
    cl * 16000 ≤ confDur mainnet transfer cl ∧ confDur mainnet transfer cl ≤ max cl 205 * 16000 := by
  unfold confDur
  split
  · exact ⟨Nat.mul_le_mul_right _ (Nat.le_max_left _ _), Nat.le_refl _⟩  -- a mainnet transfer: `max cl 205` intervals
  · exact ⟨Nat.le_refl _, Nat.mul_le_mul_right _ (Nat.le_max_left _ _)⟩  -- any other message: `cl` intervals

theorem confDur_mainnet_transfer (cl : Nat) : confDur true true cl = max cl 205 * 16000 := by
  simp [confDur, MinimalConsistencyLevel, BlockTimeMs]

/-- `isEventConfirmed` in unbounded arithmetic. -/
theorem isEventConfirmed_iff {m : Msg} {h : Header} {now height : Int} {mainnet : Bool} (hr : InRange m.cl h) :
    isEventConfirmed m h now height mainnet = true ↔
      (h.height + m.cl ≤ height ∧ h.ts + (confDur mainnet (isTransfer m) m.cl : Nat) ≤ now) := by
  obtain ⟨h1, h2, h3, h4⟩ := hr
  have hd := (confDur_bounds mainnet (isTransfer m) m.cl).2
  unfold isEventConfirmed
  rw [i32_id (by omega) h2, i64_id (by omega) (by omega)]
  simp only [gt_iff_lt, ← Int.not_le]  -- the two tests as negations of `a`, `b` below
  by_cases a : h.height + ↑m.cl ≤ height <;> by_cases b : h.ts + ↑(confDur mainnet (isTransfer m) m.cl) ≤ now <;>
    simp [a, b]

/-! ## `processBlock` / `process` / `stepHeight`: one call, with the node's answers `o` at height `height` and time `now` -/

section
variable {cfg : Cfg} {o : Oracle} {height now : Int}

theorem processBlock_some {pb : PBlock} {p : List PBlock} {c : List (Unconf × Header)}
    (hp : processBlock cfg o height now pb = some (p, c)) :
    ∃ canon h, o.main pb.block = some canon ∧ headerOf o pb = some h ∧
      p = (if (pb.evs.filter fun u => !confirmedIn cfg h height now u).isEmpty then []
           else [{ pb with hdr := some h, evs := pb.evs.filter fun u => !confirmedIn cfg h height now u }]) ∧
      c = (if canon then (pb.evs.filter (confirmedIn cfg h height now)).map (fun u => (u, h)) else []) := by
  revert hp
  fun_cases processBlock cfg o height now pb
  · nofun  -- the main-chain request failed
  · nofun  -- the header request failed
  · next canon hm h hh remain conf =>  -- both answered
    intro hp
    cases hp
    exact ⟨canon, h, hm, hh, rfl, rfl⟩

theorem process_cons {pb : PBlock} {rest pend : List PBlock} {conf : List (Unconf × Header)}
    (hp : process cfg o height now (pb :: rest) = some (pend, conf)) :
    ∃ p c ps cs, processBlock cfg o height now pb = some (p, c) ∧ process cfg o height now rest = some (ps, cs) ∧
      pend = p ++ ps ∧ conf = c ++ cs := by
  simp only [process] at hp
  split at hp
  · next p c ps cs h1 h2 =>
    cases hp
    exact ⟨p, c, ps, cs, h1, h2, rfl, rfl⟩
  · cases hp

theorem mem_process_conf_iff {pending pend : List PBlock} {conf : List (Unconf × Header)}
    (hp : process cfg o height now pending = some (pend, conf)) (u : Unconf) (h : Header) :
    (u, h) ∈ conf ↔ ∃ pb ∈ pending, u ∈ pb.evs ∧ headerOf o pb = some h ∧ o.main pb.block = some true ∧
      confirmedIn cfg h height now u = true := by
  induction pending generalizing pend conf with
  | nil => cases hp; simp
  | cons pb rest ih =>
    obtain ⟨p, c, ps, cs, h1, h2, rfl, rfl⟩ := process_cons hp
    obtain ⟨canon, h', hm, hh, -, rfl⟩ := processBlock_some h1
    -- both sides split into the share of `pb` and that of `rest`; the latter agree by `ih`
    simp only [List.mem_append, ih h2, List.mem_cons, or_and_right, exists_or, exists_eq_left, hm, hh]
    refine or_congr_left ?_
    cases canon with
    | false => simp
    | true =>
      simp only [if_true, List.mem_map, List.mem_filter, Prod.mk.injEq, Option.some.injEq, true_and]
      constructor
      · rintro ⟨u', ⟨hu, hcf⟩, rfl, rfl⟩; exact ⟨hu, rfl, hcf⟩
      · rintro ⟨hu, rfl, hcf⟩; exact ⟨u, ⟨hu, hcf⟩, rfl, rfl⟩

theorem mem_process_pend_iff {pending pend : List PBlock} {conf : List (Unconf × Header)}
    (hp : process cfg o height now pending = some (pend, conf)) (pb' : PBlock) :
    pb' ∈ pend ↔ ∃ pb ∈ pending, ∃ h, headerOf o pb = some h ∧
      (pb.evs.filter fun u => !confirmedIn cfg h height now u) ≠ [] ∧
      pb' = { pb with hdr := some h, evs := pb.evs.filter fun u => !confirmedIn cfg h height now u } := by
  induction pending generalizing pend conf with
  | nil => cases hp; simp
  | cons pb rest ih =>
    obtain ⟨p, c, ps, cs, h1, h2, rfl, rfl⟩ := process_cons hp
    obtain ⟨canon, h', hm, hh, rfl, -⟩ := processBlock_some h1
    -- as in `mem_process_conf_iff`: the share of `pb`, and that of `rest` by `ih`
    simp only [List.mem_append, ih h2, List.mem_cons, or_and_right, exists_or, exists_eq_left, hh, Option.some.injEq]
    refine or_congr_left ?_
    simp only [List.isEmpty_iff, exists_eq_left']
    split
    · next he => simp [he]  -- every event of `pb` is confirmed: the block is not kept
    · next hne => simp [hne]

variable (cfg height now) in
/-- `process` fails only on a node API error for some pending block. -/
theorem exists_process_eq_some {pending : List PBlock}
    (hok : ∀ pb ∈ pending, (o.main pb.block).isSome ∧ (headerOf o pb).isSome) :
    ∃ pend conf, process cfg o height now pending = some (pend, conf) := by
  induction pending with
  | nil => exact ⟨[], [], rfl⟩
  | cons pb rest ih =>
    obtain ⟨canon, hm⟩ := Option.isSome_iff_exists.1 (hok pb List.mem_cons_self).1
    obtain ⟨h, hh⟩ := Option.isSome_iff_exists.1 (hok pb List.mem_cons_self).2
    obtain ⟨ps, cs, hr⟩ := ih fun pb' hpb' => hok pb' (List.mem_cons_of_mem _ hpb')
    simp only [process, processBlock, hm, hh, hr]
    exact ⟨_, _, rfl⟩

theorem stepHeight_none {s : WState}
    (hp : process cfg o height now s.pending = none) :
    stepHeight cfg o height now s = ({ s with alive := false }, []) := by
  simp [stepHeight, hp]

theorem stepHeight_some {s : WState} {pend : List PBlock}
    {conf : List (Unconf × Header)} (hp : process cfg o height now s.pending = some (pend, conf)) :
    (stepHeight cfg o height now s).1.pending = pend ∧ (stepHeight cfg o height now s).2 = (handleConfirmed cfg conf).1 ∧
    (stepHeight cfg o height now s).1.alive = (s.alive && !(handleConfirmed cfg conf).2) ∧
    (stepHeight cfg o height now s).1.fromIndex = s.fromIndex := by
  unfold stepHeight
  rw [hp]
  simp only
  split
  · next he =>  -- nothing confirmed: `handleConfirmed` is not called, and `handleConfirmed cfg [] = ([], false)`
    rw [List.isEmpty_iff] at he
    subst he
    simp [handleConfirmed]
  · simp

end

def evIds (l : List Unconf) : List Nat := l.map fun u => u.ev.id
def pendIds (pend : List PBlock) : List Nat := pend.flatMap fun pb => evIds pb.evs
def confIds (conf : List (Unconf × Header)) : List Nat := conf.map fun c => c.1.ev.id

@[simp] theorem pendIds_nil : pendIds [] = [] := rfl
@[simp] theorem pendIds_cons (pb : PBlock) (rest : List PBlock) : pendIds (pb :: rest) = evIds pb.evs ++ pendIds rest := by
  simp [pendIds]
@[simp] theorem pendIds_append (a b : List PBlock) : pendIds (a ++ b) = pendIds a ++ pendIds b := by
  simp [pendIds]
@[simp] theorem confIds_nil : confIds [] = [] := rfl
@[simp] theorem confIds_append (a b : List (Unconf × Header)) : confIds (a ++ b) = confIds a ++ confIds b := by
  simp [confIds]

theorem evIds_count_filter_add (p : Unconf → Bool) (l : List Unconf) (x : Nat) :
    (evIds (l.filter fun u => !p u)).count x + (evIds (l.filter p)).count x = (evIds l).count x := by
  simp only [evIds, List.count_eq_countP, List.countP_map]
  rw [Nat.add_comm]
  exact (List.countP_eq_countP_filter_add l _ p).symm

/-- ids of the events one `process` call drops from a block: confirmed, but the block is not on the main chain -/
def dropIds (cfg : Cfg) (o : Oracle) (height now : Int) (pb : PBlock) : List Nat :=
  match o.main pb.block, headerOf o pb with
  | some false, some h => evIds (pb.evs.filter (confirmedIn cfg h height now))
  | _, _ => []

/-- the list of at most one block that `processBlock` keeps -/
theorem pendIds_keptBlock (pb : PBlock) (h : Option Header) (l : List Unconf) :
    pendIds (if l.isEmpty then [] else [{ pb with hdr := h, evs := l }]) = evIds l := by
  cases l <;> simp [evIds]

theorem confIds_map_pair (l : List Unconf) (h : Header) : confIds (l.map fun u => (u, h)) = evIds l := by
  simp [confIds, evIds]

/-- `process` partitions the pending events: every event is kept, handed on, or dropped — never duplicated. -/
theorem process_partition {cfg : Cfg} {o : Oracle} {height now : Int} {pending pend : List PBlock}
    {conf : List (Unconf × Header)} (hp : process cfg o height now pending = some (pend, conf)) (x : Nat) :
    (pendIds pend).count x + (confIds conf).count x + (pending.flatMap (dropIds cfg o height now)).count x
      = (pendIds pending).count x := by
  induction pending generalizing pend conf with
  | nil => cases hp; rfl
  | cons pb rest ih =>
    obtain ⟨p, c, ps, cs, h1, h2, rfl, rfl⟩ := process_cons hp
    obtain ⟨canon, h, hm, hh, rfl, rfl⟩ := processBlock_some h1
    have ihr := ih h2
    have hs := evIds_count_filter_add (confirmedIn cfg h height now) pb.evs x
    have hc : (confIds (if canon then (pb.evs.filter (confirmedIn cfg h height now)).map (fun u => (u, h)) else [])).count x
        + (dropIds cfg o height now pb).count x = (evIds (pb.evs.filter (confirmedIn cfg h height now))).count x := by
      cases canon <;> simp [dropIds, hm, hh, confIds_map_pair]
    -- for `pb`: kept + confirmed = all (`hs`), confirmed = handed on + dropped (`hc`); for `rest`: `ihr`
    simp only [pendIds_append, confIds_append, pendIds_cons, List.count_append, List.flatMap_cons, pendIds_keptBlock]
    omega

theorem addEvent_perm (pend : List PBlock) (u : Unconf) : (pendIds (addEvent pend u)).Perm (u.ev.id :: pendIds pend) := by
  fun_induction addEvent pend u with
  | case1 u => simp [evIds]  -- no block yet
  | case2 pb rest u _ =>  -- the first block is the event's
    simp only [pendIds_cons, evIds, List.map_append, List.map_cons, List.map_nil, List.append_assoc, List.singleton_append]
    exact List.perm_middle
  | case3 pb rest u _ ih =>  -- it is filed further down
    exact (ih.append_left _).trans List.perm_middle

/-- Filing another event `v` keeps an event `u` where it is filed, with its block's header (the body of `C09.Held`). -/
theorem addEvent_held (pend : List PBlock) (v u : Unconf) (h : Header)
    (hh : ∃ pb ∈ pend, pb.block = u.ev.block ∧ u ∈ pb.evs ∧ (pb.hdr = none ∨ pb.hdr = some h)) :
    ∃ pb ∈ addEvent pend v, pb.block = u.ev.block ∧ u ∈ pb.evs ∧ (pb.hdr = none ∨ pb.hdr = some h) := by
  obtain ⟨pb, hpb, hb, hu, hd⟩ := hh
  fun_induction addEvent pend v with
  | case1 => cases hpb
  | case2 pb0 rest v _ =>  -- `v` joins the first block
    rcases List.mem_cons.1 hpb with rfl | hin
    · exact ⟨_, List.mem_cons_self, hb, List.mem_append_left _ hu, hd⟩
    · exact ⟨pb, List.mem_cons_of_mem _ hin, hb, hu, hd⟩
  | case3 pb0 rest v _ ih =>  -- `v` is filed further down
    rcases List.mem_cons.1 hpb with rfl | hin
    · exact ⟨pb, List.mem_cons_self, hb, hu, hd⟩
    · obtain ⟨pb', hpb', rest'⟩ := ih hin
      exact ⟨pb', List.mem_cons_of_mem _ hpb', rest'⟩

theorem addBatch_count (pend : List PBlock) (us : List Unconf) (x : Nat) :
    (pendIds (addBatch pend us)).count x = (pendIds pend).count x + (evIds us).count x := by
  induction us generalizing pend with
  | nil => simp [addBatch, evIds]
  | cons u rest ih =>
    rw [addBatch, List.foldl_cons, ← addBatch, ih, (addEvent_perm pend u).count_eq]
    simp only [evIds, List.map_cons, List.count_cons]
    omega

/-- `handleConfirmedEvents` in closed form: it walks the batch up to the first entry with an unknown event index,
forwards the token-bridge entries met on the way, and fails iff there is such an entry. -/
theorem handleConfirmed_eq (cfg : Cfg) (conf : List (Unconf × Header)) :
    handleConfirmed cfg conf =
      ((conf.takeWhile fun c => c.1.ev.idx = 0).filter fun c => c.1.msg.sender = cfg.bridge,
        !conf.all fun c => c.1.ev.idx = 0) := by
  fun_induction handleConfirmed cfg conf with
  | case1 => rfl
  | case2 u h rest hi hs r ih => simp [hi, hs, r, ih]  -- index 0, from the token bridge: forwarded
  | case3 u h rest hi hs ih => simp [hi, hs, ih]  -- index 0, another sender: skipped
  | case4 u h rest hi => simp [hi]  -- unknown index: the walk ends with an error

theorem handleConfirmed_sublist (cfg : Cfg) (conf : List (Unconf × Header)) :
    (handleConfirmed cfg conf).1.Sublist conf :=
  handleConfirmed_eq cfg conf ▸ List.filter_sublist.trans (List.takeWhile_sublist _)

/-- What `handleConfirmedEvents` forwards when no event index is unknown: exactly the token-bridge entries. -/
theorem handleConfirmed_of_idx0 (cfg : Cfg) (conf : List (Unconf × Header)) (h0 : ∀ c ∈ conf, c.1.ev.idx = 0) :
    handleConfirmed cfg conf = (conf.filter fun c => c.1.msg.sender = cfg.bridge, false) := by
  have hall : ∀ c ∈ conf, decide (c.1.ev.idx = 0) = true := fun c hc => decide_eq_true (h0 c hc)
  rw [handleConfirmed_eq, List.takeWhile_eq_self hall, List.all_eq_true.2 hall]
  rfl

theorem handleConfirmed_mem (cfg : Cfg) (conf : List (Unconf × Header)) (c : Unconf × Header)
    (hc : c ∈ (handleConfirmed cfg conf).1) : c ∈ conf ∧ c.1.ev.idx = 0 ∧ c.1.msg.sender = cfg.bridge := by
  rw [handleConfirmed_eq, List.mem_filter] at hc
  exact ⟨List.takeWhile_subset _ hc.1, by simpa using List.all_eq_true.1 List.all_takeWhile c hc.1, by simpa using hc.2⟩

theorem validateAttest_eq_true {ans : Bytes → TiAns} {m : Msg} :
    validateAttest ans m = true ↔ ∃ ti, parseAttest m.payload = some ti ∧ getTokenInfo ans ti.tokenId = some ti := by
  unfold validateAttest
  split
  · next hp => exact ⟨nofun, fun ⟨ti, h, _⟩ => nomatch hp.symm.trans h⟩
  · next ti hp => exact ⟨fun h => ⟨ti, hp, by simpa using h⟩, fun ⟨ti', h, h'⟩ => by cases hp.symm.trans h; simpa using h'⟩

theorem toUnconfirmed_eq_some {e : Event} {u : Unconf} :
    toUnconfirmed e = some u ↔ u.ev = e ∧ e.idx = 0 ∧ e.conv = some u.msg := by
  obtain ⟨ev, msg⟩ := u
  unfold toUnconfirmed
  split
  · next hi => exact ⟨nofun, fun h => absurd h.2.1 hi⟩
  · next hi =>
    simp only [Option.map_eq_some_iff, Unconf.mk.injEq, Decidable.not_not.1 hi, true_and]
    constructor
    · rintro ⟨m, hm, rfl, rfl⟩; exact ⟨rfl, hm⟩
    · rintro ⟨rfl, hm⟩; exact ⟨msg, hm, rfl, rfl⟩

theorem acceptEv_eq_filter (ans : Bytes → TiAns) (e : Event) :
    acceptEv ans e = (toUnconfirmed e).filter fun u => !isAttest u.msg || validateAttest ans u.msg := by
  unfold acceptEv
  cases toUnconfirmed e with
  | none => rfl
  | some u => cases ha : isAttest u.msg <;> cases hv : validateAttest ans u.msg <;> simp [Option.filter, ha, hv]

theorem acceptEv_eq_some {ans : Bytes → TiAns} {e : Event} {u : Unconf} :
    acceptEv ans e = some u ↔
      u.ev = e ∧ e.idx = 0 ∧ e.conv = some u.msg ∧ (isAttest u.msg = true → validateAttest ans u.msg = true) := by
  rw [acceptEv_eq_filter, Option.filter_eq_some_iff, toUnconfirmed_eq_some, and_assoc, and_assoc]
  cases isAttest u.msg <;> simp

theorem mem_handleUnconfirmed {ans : Bytes → TiAns} {evs : List Event} {u : Unconf} :
    u ∈ handleUnconfirmed ans evs ↔
      u.ev ∈ evs ∧ u.ev.idx = 0 ∧ u.ev.conv = some u.msg ∧ (isAttest u.msg = true → validateAttest ans u.msg = true) := by
  simp only [handleUnconfirmed, List.mem_filterMap, acceptEv_eq_some]
  constructor
  · rintro ⟨e, he, rfl, h⟩; exact ⟨he, h⟩
  · rintro ⟨he, h⟩; exact ⟨u.ev, he, rfl, h⟩

/-- A node that serves one append-only event log consistently: the `k`-th page request of a tick, asked with
`start ≤ vis k`, returns the events `[start, min (start + size k) (vis k))` and that bound as `nextStart`.  `vis k` is the length of the log
the node shows to the `k`-th request (it may grow between requests), `size k` that request's page limit. -/
structure Consistent (log : List Event) (vis size : Nat → Nat) (page : Nat → Int → Option Page) : Prop where
  size_pos : ∀ k, 0 < size k
  vis_mono : ∀ k, vis k ≤ vis (k + 1)
  vis_le : ∀ k, vis k ≤ log.length
  answer : ∀ k (s : Nat), s ≤ vis k →
    page k s = some ⟨(log.drop s).take (min (s + size k) (vis k) - s), (min (s + size k) (vis k) : Nat)⟩

theorem Consistent.vis_zero_le {log : List Event} {vis size : Nat → Nat} {page : Nat → Int → Option Page}
    (hc : Consistent log vis size page) (k : Nat) : vis 0 ≤ vis k := by
  induction k with
  | zero => exact Nat.le_refl _
  | succ k ih => exact Nat.le_trans ih (hc.vis_mono k)

/-- The page loop against a consistent node, from any cursor `s` and for any count `c` the node can have answered
(`s, c ≤ vis 0`; `c` may lie below `s`, or be negative — only `c.toNat` matters): it ends at some `n ≥ s, c` having
appended exactly the positions `[s, n)`.  `k` counts the requests made before, `r` those made in all: at most `c - s`
more if `s < c`. -/
theorem pageLoop_consistent {log : List Event} {vis size : Nat → Nat} {page : Nat → Int → Option Page}
    (hc : Consistent log vis size page) (c : Int) (hcv : c.toNat ≤ vis 0) :
    ∀ (fuel k s : Nat) (acc : List Event), s ≤ vis 0 → 0 < fuel → c.toNat ≤ s + fuel →
      ∃ n r : Nat, pageLoop page c fuel k s acc = .done n (acc ++ (log.drop s).take (n - s)) r ∧
        s ≤ n ∧ c.toNat ≤ n ∧ n ≤ log.length ∧ k < r ∧ (s < c.toNat → r + s ≤ k + c.toNat) := by
  -- the loop's exit test read over `Nat`, so that no cast enters the arithmetic below
  have htest : ∀ n : Nat, (n : Int) ≥ c ↔ c.toNat ≤ n := fun n => Int.toNat_le.symm
  generalize c.toNat = d at *
  intro fuel
  induction fuel with
  | zero => intro _ _ _ _ h; exact absurd h (Nat.lt_irrefl 0)
  | succ fuel ih =>
    intro k s acc hsv _ hfuel
    have hk := hc.vis_zero_le k
    have hsk := Nat.le_trans hsv hk
    have hans := hc.answer k s hsk
    have hs' : s ≤ min (s + size k) (vis k) ∧ min (s + size k) (vis k) ≤ log.length ∧
        (s < vis k → s < min (s + size k) (vis k)) :=
      ⟨Nat.le_min.2 ⟨Nat.le_add_right _ _, hsk⟩, Nat.le_trans (Nat.min_le_right _ _) (hc.vis_le k),
        fun h => Nat.lt_min.2 ⟨Nat.lt_add_of_pos_right (hc.size_pos k), h⟩⟩
    generalize min (s + size k) (vis k) = s' at hans hs'
    rw [pageLoop, hans]
    simp only [htest]
    split
    · next hge =>  -- the last page
      exact ⟨s', k + 1, rfl, hs'.1, hge, hs'.2.1, Nat.lt_succ_self k, fun _ => by omega⟩
    · next hlt =>  -- one more page: the cursor has moved (`h2`), so the fuel left suffices (`hf`)
      have h1 : s' < d := Nat.lt_of_not_le hlt
      have h2 : s < s' := hs'.2.2 (Nat.lt_of_le_of_lt hs'.1 (Nat.lt_of_lt_of_le h1 (Nat.le_trans hcv hk)))
      have hf : 0 < fuel ∧ d ≤ s' + fuel := by omega
      obtain ⟨n, r, hres, h3, h4, h5, h6, h7⟩ := ih (k + 1) s' (acc ++ (log.drop s).take (s' - s))
        (Nat.le_trans (Nat.le_of_lt h1) hcv) hf.1 hf.2
      refine ⟨n, r, ?_, Nat.le_trans hs'.1 h3, h4, h5, Nat.lt_of_succ_lt h6, fun _ => by omega⟩
      rw [hres, List.append_assoc, List.drop_take_append log hs'.1 h3]

/-- Against any node that never answers a page request below the `start` asked for, the loop ends at or above where
it started. -/
theorem pageLoop_start_le_next {page : Nat → Int → Option Page} (hp : ∀ k s p, page k s = some p → s ≤ p.next)
    {count : Int} {fuel k : Nat} {s : Int} {acc : List Event} {n : Int} {evs : List Event} {r : Nat}
    (h : pageLoop page count fuel k s acc = .done n evs r) : s ≤ n := by
  fun_induction pageLoop page count fuel k s acc with
  | case1 => cases h  -- out of fuel
  | case2 => cases h  -- a page request failed
  | case3 fuel k s acc p hpg => cases h; exact hp k s p hpg  -- the last page
  | case4 fuel k s acc p hpg _ ih => exact Int.le_trans (hp k s p hpg) (ih h)  -- one more page

theorem fetchTick_of_done {ans : Bytes → TiAns} {c : Int} {page : Nat → Int → Option Page} {fuel : Nat} {s : WState}
    {n : Int} {evs : List Event} {r : Nat} (hne : c ≠ s.fromIndex)
    (hl : pageLoop page c fuel 0 s.fromIndex [] = .done n evs r) :
    fetchTick ans (some c) page fuel s =
      (stepBatch { s with fromIndex := n } (handleUnconfirmed ans evs), some (handleUnconfirmed ans evs)) := by
  simp [fetchTick, hne, hl]

/-- What `getGovernanceEventsByTxId` returns when it returns: exactly the events of the transaction with index 0, of the
governance contract, in the block asked for, paired with their conversion and that block's header — minus attestations
the token contract does not confirm. -/
theorem mem_govEvents {cfg : Cfg} {node : ReobsNode} {bh : Hash} {evs : List Event} {cands : List (Unconf × Header)}
    (hg : govEvents cfg node bh evs = some cands) (c : Unconf × Header) :
    c ∈ cands ↔ c.1.ev ∈ evs ∧ c.1.ev.idx = 0 ∧ c.1.ev.contract = cfg.gov ∧ c.1.ev.block = bh ∧ node.hdr bh = some c.2 ∧
      c.1.ev.conv = some c.1.msg ∧ (isAttest c.1.msg = true → validateAttest node.ti c.1.msg = true) := by
  fun_induction govEvents cfg node bh evs generalizing cands with
  | case1 => cases hg; simp
  | case2 e rest hidx ih =>  -- `e` is skipped for its event index
    rw [ih hg, List.mem_cons, or_and_right, or_iff_right]
    rintro ⟨rfl, h0, -⟩
    exact hidx h0
  | case3 e rest _ ho ih =>  -- … for its contract or its block
    rw [ih hg, List.mem_cons, or_and_right, or_iff_right]
    rintro ⟨rfl, -, hgov, hb, -⟩
    exact ho.elim (· hgov) (· hb)
  | case4 => cases hg  -- no header: an error
  | case5 => cases hg  -- no conversion: an error
  | case6 e rest _ _ h _ m hm hatt ih =>  -- … as an attestation the token contract does not confirm
    rw [ih hg, List.mem_cons, or_and_right, or_iff_right]
    rintro ⟨rfl, -, -, -, -, hm', hv⟩
    cases hm.symm.trans hm'
    simp only [Bool.and_eq_true, Bool.not_eq_true'] at hatt
    rw [hv hatt.1] at hatt
    exact absurd hatt.2 (by decide)
  | case7 e rest hidx ho h hh m hm hatt ih =>  -- `e` becomes a candidate
    obtain ⟨l, hl, rfl⟩ := Option.map_eq_some_iff.1 hg
    rw [List.mem_cons, ih hl, List.mem_cons, or_and_right]
    -- the three tests `e` has passed, read positively
    simp only [ne_eq, Decidable.not_not, not_or, Bool.and_eq_true, Bool.not_eq_true', not_and, Bool.not_eq_false] at hidx ho hatt
    refine or_congr_left ⟨?_, ?_⟩
    · rintro rfl
      exact ⟨rfl, hidx, ho.1, ho.2, ho.2 ▸ hh, hm, hatt⟩
    · rintro ⟨rfl, -, -, hb, hh', hm', -⟩
      cases hm.symm.trans hm'
      cases hh.symm.trans (hb ▸ hh')
      rfl

theorem mem_reobserve {cfg : Cfg} {node : ReobsNode} {now : Int} {chain hashLen : Nat} {tx : Hash} {p : Pub} :
    p ∈ reobserve cfg node now chain hashLen tx ↔
      chain = ChainIdAlephium ∧ hashLen = 32 ∧ ∃ bh evs cands height, node.status = some (.confirmed bh) ∧
        node.txEvents = some evs ∧ govEvents cfg node bh evs = some cands ∧ node.main bh = some true ∧
        node.height = some height ∧ ∃ c ∈ cands, isEventConfirmed c.1.msg c.2 now height cfg.mainnet = true ∧
          c.1.msg.sender = cfg.bridge ∧ p = toPub tx c.1.msg c.2 := by
  constructor
  · fun_cases reobserve cfg node now chain hashLen tx
    -- the one branch that publishes; the other nine return `[]`
    case case10 hc hl bh hst evs hev cands hg hmain height hheight confirmed =>
      intro hp
      obtain ⟨c, hc', rfl⟩ := List.mem_map.1 hp
      obtain ⟨hc', hs⟩ := List.mem_filter.1 hc'
      obtain ⟨hin, hcf⟩ := List.mem_filter.1 hc'
      exact ⟨Decidable.not_not.1 hc, Decidable.not_not.1 hl, bh, evs, cands, height, hst, hev, hg, hmain, hheight,
        c, hin, hcf, of_decide_eq_true hs, rfl⟩
    all_goals exact fun hp => absurd hp List.not_mem_nil
  · rintro ⟨rfl, rfl, bh, evs, cands, height, hst, hev, hg, hmain, hheight, c, hin, hcf, hs, rfl⟩
    simp only [reobserve, ne_eq, not_true_eq_false, if_false, hst, hev, hg, hmain, hheight]
    exact List.mem_map.2 ⟨c, List.mem_filter.2 ⟨List.mem_filter.2 ⟨hin, hcf⟩, decide_eq_true hs⟩, rfl⟩

theorem newWatcher_eq_some {toAddr : Bytes → String} {cc : ChainCfg} {mainnet : Bool} {b : Built} :
    newWatcher toAddr cc mainnet = some b ↔ ∃ g br, cc.governance = some g ∧ cc.tokenBridge = some br ∧
      b = { cfg := { mainnet := mainnet, bridge := br, gov := toAddr g }, group := cc.groupIndex } := by
  unfold newWatcher
  split
  · next g br hg hb =>
    rw [Option.some.injEq, hg, hb]
    exact ⟨fun h => ⟨g, br, rfl, rfl, h.symm⟩, fun ⟨_, _, h1, h2, h⟩ => by cases h1; cases h2; exact h.symm⟩
  · next hno => exact ⟨nofun, fun ⟨g, br, hg, hb, _⟩ => absurd hb (hno g br hg)⟩

end Whv.Alph
