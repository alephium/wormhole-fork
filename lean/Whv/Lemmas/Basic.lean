/-! Facts about core `List` and `Int` functions that several models need and core Lean does not state; nothing here mentions a model. -/

namespace List

theorem mem_of_lookup_eq_some {κ : Type u} {ν : Type v} [BEq κ] [LawfulBEq κ] {l : List (κ × ν)} {k : κ} {v : ν}
    (h : l.lookup k = some v) : (k, v) ∈ l := by
  obtain ⟨l₁, l₂, rfl, -⟩ := lookup_eq_some_iff.1 h
  exact mem_append_right _ mem_cons_self

theorem lookup_filter_fst_ne {κ : Type u} {ν : Type v} [BEq κ] [LawfulBEq κ] (l : List (κ × ν)) {k k' : κ}
    (hne : k' ≠ k) : (l.filter (fun e => !(e.1 == k))).lookup k' = l.lookup k' := by
  induction l with
  | nil => rfl
  | cons e l ih =>
    rw [filter_cons]
    split
    · rw [lookup_cons, lookup_cons, ih]
    · next h =>
      have he : e.1 = k := by simpa using h
      rw [lookup_cons, beq_false_of_ne (he ▸ hne), ih]

theorem eq_of_nodup_map {α : Type u} {β : Type v} (f : α → β) {l : List α} (h : (l.map f).Nodup) {a b : α}
    (ha : a ∈ l) (hb : b ∈ l) (hab : f a = f b) : a = b :=
  have hp := pairwise_map.1 h
  -- `f a = f b → a = b` holds of an element with itself and, as `f a ≠ f b` there, of two different positions in either order
  Pairwise.forall_of_forall_of_flip (R := fun a b => f a = f b → a = b) (fun _ _ _ => rfl)
    (hp.imp fun h e => absurd e h) (hp.imp fun h e => absurd e.symm h) ha hb hab

theorem flatten_length_const {α : Type u} (w : Nat) (ks : List (List α)) (h : ∀ k ∈ ks, k.length = w) :
    ks.flatten.length = ks.length * w := by
  rw [length_flatten, map_congr_left h, map_const', sum_replicate_nat]

end List

theorem Int.neg_one_lt_natCast {n : Nat} : (-1 : Int) < n := Int.lt_of_lt_of_le (by decide) (Int.natCast_nonneg n)
