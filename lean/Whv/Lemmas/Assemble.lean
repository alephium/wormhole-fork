import Whv.Lemmas.Processor
import Whv.Props.C06
/-!
Signatures assembled by walking the guardian set in key order (`Whv.Proc.assemble`) form a `C06.Valid` list:
the heart of C01 for locally assembled VAAs.
-/
namespace Whv.Proc
open Whv

theorem assembleFrom_length (sigs : List (Addr × Bytes)) : ∀ (ks : List Addr) (i : Nat),
    (assembleFrom sigs ks i).length = (ks.filter (fun a => (sigs.lookup a).isSome)).length := by
  intro ks
  induction ks with
  | nil => intro i; simp [assembleFrom]
  | cons a ks ih =>
    intro i
    unfold assembleFrom
    cases h : sigs.lookup a <;> simp [List.filter, h, ih]

theorem assemble_length (keys : List Addr) (sigs : List (Addr × Bytes)) :
    (assemble keys sigs).length = (keys.filter (fun a => (sigs.lookup a).isSome)).length :=
  assembleFrom_length sigs keys 0

theorem assembleFrom_length_le (sigs : List (Addr × Bytes)) : ∀ (ks : List Addr) (i : Nat),
    (assembleFrom sigs ks i).length ≤ ks.length := by
  intro ks i
  rw [assembleFrom_length]
  exact List.length_filter_le ..

/-- A guardian set as the chain delivers it: distinct keys, at most 256 of them (the wire format's one-byte index). -/
def GSetOk (g : GSet) : Prop := g.keys.Nodup ∧ g.keys.length ≤ 256

/-- One signature per key that has one, under the key's number, in ascending order. The bound `i + ks.length ≤ 256` is what makes
`i % 256 = i` (Go's `uint8(i)`). -/
theorem assembleFrom_spec (sigs : List (Addr × Bytes)) :
    ∀ (ks : List Addr) (i : Nat), i + ks.length ≤ 256 →
      (∀ s ∈ assembleFrom sigs ks i, i ≤ s.idx ∧ ∃ a, ks[s.idx - i]? = some a ∧ sigs.lookup a = some s.sig) ∧
      (assembleFrom sigs ks i).Pairwise (fun a b => a.idx < b.idx) := by
  intro ks
  induction ks with
  | nil => intro i _; exact ⟨nofun, .nil⟩
  | cons a ks ih =>
    intro i hlen
    rw [List.length_cons] at hlen
    obtain ⟨h1, h2⟩ := ih (i + 1) (by omega)
    have htl : ∀ s ∈ assembleFrom sigs ks (i + 1),
        i < s.idx ∧ ∃ a', (a :: ks)[s.idx - i]? = some a' ∧ sigs.lookup a' = some s.sig := by
      intro s hs
      obtain ⟨hle, a', hk, hl⟩ := h1 s hs
      refine ⟨hle, a', ?_, hl⟩
      rw [show s.idx - i = s.idx - (i + 1) + 1 by omega]
      exact hk
    unfold assembleFrom
    split
    · next sg hl =>  -- `a` has signed: its signature comes first, under the number `i`
      rw [Nat.mod_eq_of_lt (by omega)]
      refine ⟨?_, List.pairwise_cons.2 ⟨fun s hs => (htl s hs).1, h2⟩⟩
      intro s hs
      rcases List.mem_cons.1 hs with rfl | hs
      · exact ⟨Nat.le_refl _, a, by simp, hl⟩
      · exact ⟨Nat.le_of_lt (htl s hs).1, (htl s hs).2⟩
    · exact ⟨fun s hs => ⟨Nat.le_of_lt (htl s hs).1, (htl s hs).2⟩, h2⟩

/-- The assembled list is `Valid` for the set it was assembled from. -/
theorem assemble_valid (recover : Bytes → Option Addr) (g : GSet) (hg : GSetOk g) (sigs : List (Addr × Bytes))
    (hrec : ∀ p ∈ sigs, recover p.2 = some p.1) :
    C06.Valid recover (assemble g.keys sigs) g.keys := by
  obtain ⟨h1, h2⟩ := assembleFrom_spec sigs g.keys 0 (by rw [Nat.zero_add]; exact hg.2)
  have h1' : ∀ s ∈ assemble g.keys sigs, s.idx < g.keys.length ∧ recover s.sig = g.keys[s.idx]? := by
    intro s hs
    obtain ⟨_, a, hk, hl⟩ := h1 s hs
    exact ⟨(List.getElem?_eq_some_iff.1 hk).1, (hrec _ (List.mem_of_lookup_eq_some hl)).trans hk.symm⟩
  refine ⟨h1', h2, h2.imp_of_mem fun {a b} ha hb hlt e => ?_⟩
  -- distinct positions of a duplicate-free key list hold distinct keys
  rw [(h1' a ha).2, (h1' b hb).2] at e
  exact Nat.ne_of_lt hlt ((List.getElem?_inj (h1' a ha).1 hg.1).1 e)

end Whv.Proc
