import Whv.Model.Verify
/-! `verifyLoop` from any loop state `(last, seen)`: one round, then by induction the three clauses the C06 specification is made of
(positional validity, ascending indices, distinct signers), each relative to that state. -/
namespace Whv

variable {recover : Bytes → Option Addr} {addrs : List Addr}

theorem verifyLoop_cons (s : Sig) (rest : List Sig) (last : Int) (seen : List Addr) :
    verifyLoop recover addrs (s :: rest) last seen = true ↔
      s.idx < addrs.length ∧ last < (s.idx : Int) ∧ ∃ a, recover s.sig = some a ∧ some a = addrs[s.idx]? ∧ a ∉ seen ∧
        verifyLoop recover addrs rest s.idx (seen ++ [a]) = true := by
  rw [verifyLoop]
  -- each `if c then false else …` becomes a conjunct `¬c`; when nothing is recovered both sides end in `False`
  cases recover s.sig <;>
    simp only [Bool.ite_then_false, Int.not_le, Int.ofNat_lt, Option.some.injEq, exists_eq_left',
      List.contains_iff_mem, Decidable.not_not, reduceCtorEq, false_and, exists_false]

theorem verifyLoop_iff (sigs : List Sig) (last : Int) (seen : List Addr) :
    verifyLoop recover addrs sigs last seen = true ↔
      (∀ s ∈ sigs, (s.idx < addrs.length ∧ recover s.sig = addrs[s.idx]?) ∧ last < (s.idx : Int) ∧
        ∀ a ∈ seen, recover s.sig ≠ some a) ∧
      sigs.Pairwise (fun a b => a.idx < b.idx) ∧ sigs.Pairwise (fun a b => recover a.sig ≠ recover b.sig) := by
  induction sigs generalizing last seen with
  | nil => simp [verifyLoop]
  | cons s rest ih =>
    rw [verifyLoop_cons, List.forall_mem_cons, List.pairwise_cons, List.pairwise_cons]
    constructor
    · rintro ⟨hi, hl, a, ha, hk, hseen, hrest⟩
      obtain ⟨hrest, p2, p3⟩ := (ih _ _).1 hrest
      refine ⟨⟨⟨⟨hi, ha.trans hk⟩, hl, fun b hb e => hseen ?_⟩, fun t ht => ?_⟩, ⟨fun t ht => ?_, p2⟩,
        fun t ht => ?_, p3⟩
      -- the head's signer is not in `seen`
      · rw [ha] at e; cases e; exact hb
      -- a later signature: its clauses relative to `(last, seen)` from those relative to `(s.idx, seen ++ [a])`
      · obtain ⟨ok, lt, fr⟩ := hrest t ht
        exact ⟨ok, Int.lt_trans hl lt, fun b hb => fr b (List.mem_append_left _ hb)⟩
      -- the head's index is below every later one
      · exact Int.ofNat_lt.1 (hrest t ht).2.1
      -- the head's signer differs from every later one
      · rw [ha]; exact fun e => (hrest t ht).2.2 a (List.mem_append_right _ (List.mem_singleton_self a)) e.symm
    · rintro ⟨⟨⟨hs, hl, hseen⟩, hrest⟩, ⟨h2, p2⟩, h3, p3⟩
      have ha := hs.2.trans (List.getElem?_eq_getElem hs.1)
      refine ⟨hs.1, hl, _, ha, ha.symm.trans hs.2, fun hm => hseen _ hm ha, (ih _ _).2 ⟨fun t ht => ?_, p2, p3⟩⟩
      -- a later signature, relative to `(s.idx, seen ++ [a])`
      obtain ⟨ok, -, fr⟩ := hrest t ht
      refine ⟨ok, Int.ofNat_lt.2 (h2 t ht), fun b hb => ?_⟩
      rcases List.mem_append.1 hb with hb | hb
      · exact fr b hb
      · cases List.mem_singleton.1 hb; exact fun e => h3 t ht (ha.trans e.symm)

/-- Pigeonhole: strictly ascending indices in `[lo, n)` fit between `lo` and `n` (`lo ≤ n` is needed for the empty list only). -/
theorem length_add_le_of_ascending {n : Nat} (sigs : List Sig) (lo : Nat) (hlo : lo ≤ n)
    (hb : ∀ s ∈ sigs, lo ≤ s.idx ∧ s.idx < n) (hp : sigs.Pairwise (fun a b => a.idx < b.idx)) : sigs.length + lo ≤ n := by
  induction sigs generalizing lo with
  | nil => rwa [List.length_nil, Nat.zero_add]
  | cons s rest ih =>
    rw [List.pairwise_cons] at hp
    rw [List.forall_mem_cons] at hb
    -- the rest lies in `[s.idx + 1, n)`
    have := ih (s.idx + 1) hb.1.2 (fun t ht => ⟨hp.1 t ht, (hb.2 t ht).2⟩) hp.2
    rw [List.length_cons, Nat.add_right_comm]
    exact Nat.le_trans (Nat.add_le_add_right (Nat.add_le_add_left hb.1.1 _) 1) this

end Whv
