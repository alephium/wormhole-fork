import Whv.Model.Spy
/-! A proof about an arbitrary enabled step of the spy model takes cases on the relation `Trans` (`trans_of_step`: an enabled
step is one of its eight rules) instead of unfolding `step`; `exec_invariant` carries an invariant along a trace. -/
namespace Whv.Spy

theorem hit_eq_beq (f : Filter) (c : Nat) (a : Bytes) : f.hit c a = (f == ⟨c, a⟩) := by
  cases f
  rw [Bool.eq_iff_iff]
  simp [Filter.hit]

theorem copies_eq_count (fs : List Filter) (c : Nat) (a : Bytes) :
    copies fs c a = if fs.isEmpty then 1 else fs.count ⟨c, a⟩ := by
  simp only [copies, List.count_eq_length_filter, hit_eq_beq]

theorem sends_some_cons (c : Nat) (a : Bytes) (id : SubId) (fs : List Filter) (rest : List (SubId × List Filter)) :
    sends (some (c, a)) ((id, fs) :: rest) =
      (List.replicate (copies fs c a) id ++ (sends (some (c, a)) rest).1, (sends (some (c, a)) rest).2) := by
  cases fs <;> simp [sends, copies]

theorem findSub_id {subs : List Sub} {id : SubId} {sub : Sub} (h : findSub subs id = some sub) : sub.id = id := by
  simpa using List.find?_some h

theorem findSub_mem {subs : List Sub} {id : SubId} {sub : Sub} (h : findSub subs id = some sub) : sub ∈ subs :=
  List.mem_of_find?_eq_some h

theorem findSub_setSub (subs : List Sub) (s' : Sub) (id : SubId) :
    findSub (setSub subs s') id = (findSub subs id).map fun s => if s.id == s'.id then s' else s := by
  rw [findSub, setSub, List.find?_map]
  -- the replacement has the id of what it replaces, so the search stops at the same place
  congr 2
  funext s
  by_cases h : s.id = s'.id <;> simp [h]

theorem findSub_setSub_self {subs : List Sub} {sub s' : Sub} (h : findSub subs s'.id = some sub) :
    findSub (setSub subs s') s'.id = some s' := by
  rw [findSub_setSub, h, Option.map_some, findSub_id h, beq_self_eq_true, if_pos rfl]

theorem findSub_setSub_ne {subs : List Sub} {s' : Sub} {id : SubId} (hne : id ≠ s'.id) :
    findSub (setSub subs s') id = findSub subs id := by
  rw [findSub_setSub]
  cases h : findSub subs id with
  | none => rfl
  | some sub => rw [Option.map_some, findSub_id h, if_neg (by simpa using hne)]

theorem mem_setSub {subs : List Sub} {s' x : Sub} (h : x ∈ setSub subs s') : x ∈ subs ∨ x = s' := by
  obtain ⟨y, hy, rfl⟩ := List.mem_map.1 h
  split
  · exact .inr rfl
  · exact .inl hy

/-- `step` as a relation: each enabled transition with what enables it and the state it leads to. -/
inductive Trans (s : State) : Step → State → Prop
  | subscribe (id : SubId) (fs : List Filter) : s.locked = false → findSub s.subs id = none →
      Trans s (.subscribe id fs) { s with subs := s.subs ++ [⟨id, fs, [], .selecting, []⟩] }
  | pubStart (v : Bytes) (d : Decoded) (order : List SubId) : s.locked = false → s.pub = .idle →
      Trans s (.pubStart v d order) { s with locked := true, pub := .sending v (sends d (ordered s.subs order)).1 }
  | pubSend {v : Bytes} {id : SubId} {rest : List SubId} {sub : Sub} : s.pub = .sending v (id :: rest) →
      findSub s.subs id = some sub → sub.queue.length < chanCap →
      Trans s .pubSend { s with subs := setSub s.subs { sub with queue := sub.queue ++ [v] }, pub := .sending v rest,
                                log := s.log ++ [(id, v)] }
  | pubEnd {v : Bytes} : s.pub = .sending v [] → Trans s .pubEnd { s with locked := false, pub := .idle }
  | recv {id : SubId} {sub : Sub} {m : Bytes} {q : List Bytes} : findSub s.subs id = some sub →
      sub.reader = .selecting → sub.queue = m :: q →
      Trans s (.recv id) { s with subs := setSub s.subs { sub with queue := q, reader := .sending m } }
  | sendDone {id : SubId} {sub : Sub} {m : Bytes} : findSub s.subs id = some sub → sub.reader = .sending m →
      Trans s (.sendDone id)
        { s with subs := setSub s.subs { sub with reader := .selecting, delivered := sub.delivered ++ [m] } }
  | leave {id : SubId} {sub : Sub} : findSub s.subs id = some sub → sub.reader ≠ .leaving →
      Trans s (.leave id) { s with subs := setSub s.subs { sub with reader := .leaving } }
  | remove {id : SubId} {sub : Sub} : s.locked = false → findSub s.subs id = some sub → sub.reader = .leaving →
      Trans s (.remove id) { s with subs := s.subs.filter (·.id != id) }

theorem trans_of_step {s s' : State} {st : Step} : step s st = some s' → Trans s st s' := by
  fun_cases step s st
  -- `cases h` closes the branches that return `none`; the eight others come in the order of the definition
  all_goals intro h; cases h
  next hl hf => exact .subscribe _ _ (by simpa using hl) (by simpa using hf)  -- mutex free, id fresh
  next hl hp => exact .pubStart _ _ _ (by simpa using hl) hp                  -- mutex free, publisher idle
  next hp _ hf hq => exact .pubSend hp hf hq                                  -- next subscription has a free slot
  next hp => exact .pubEnd hp                                                 -- nothing left to send
  next hf _ _ hq hr => exact .recv hf hr hq                                   -- handler in `select`, channel not empty
  next hf _ hr => exact .sendDone hf hr                                       -- handler inside `resp.Send`
  next hf hr => exact .leave hf hr                                            -- handler has not left yet
  next hl _ hf hr => exact .remove (by simpa using hl) hf hr                  -- mutex free, handler has left

theorem exec_cons {s s' : State} {st : Step} {rest : List Step} (h : exec s (st :: rest) = some s') :
    ∃ s1, step s st = some s1 ∧ exec s1 rest = some s' := by
  rw [exec] at h
  split at h
  · cases h
  · next s1 hs => exact ⟨s1, hs, h⟩

/-- An invariant kept by every step of a trace (`Q` restricts the steps considered) holds at its end. -/
theorem exec_invariant {Q : Step → Prop} {P : State → Prop}
    (hstep : ∀ {s st s'}, Q st → P s → step s st = some s' → P s') :
    ∀ (tr : List Step) (s s' : State), (∀ st ∈ tr, Q st) → P s → exec s tr = some s' → P s' := by
  intro tr
  induction tr with
  | nil =>
    intro s s' _ hP h
    cases h
    exact hP
  | cons st rest ih =>
    intro s s' hQ hP h
    obtain ⟨s1, hs, h⟩ := exec_cons h
    exact ih s1 s' (fun x hx => hQ x (List.mem_cons_of_mem _ hx)) (hstep (hQ st List.mem_cons_self) hP hs) h

theorem step_queue_le_cap {s s' : State} {st : Step} (hb : ∀ x ∈ s.subs, x.queue.length ≤ chanCap)
    (h : step s st = some s') : ∀ x ∈ s'.subs, x.queue.length ≤ chanCap := by
  -- replacing a subscription by one whose channel is within capacity keeps the bound
  have hset : ∀ sub' : Sub, sub'.queue.length ≤ chanCap → ∀ x ∈ setSub s.subs sub', x.queue.length ≤ chanCap :=
    fun sub' h' x hx => (mem_setSub hx).elim (hb x) (· ▸ h')
  cases trans_of_step h with
  | subscribe id fs =>
    intro x hx
    rcases List.mem_append.1 hx with hx | hx
    · exact hb x hx
    · cases List.mem_singleton.1 hx
      exact Nat.zero_le _
  | pubStart | pubEnd => exact hb
  | pubSend _ _ hq => exact hset _ (List.length_append ▸ hq)
  | recv hf _ hq => exact hset _ (Nat.le_of_succ_le (by simpa [hq] using hb _ (findSub_mem hf)))
  | sendDone hf | leave hf =>
    have hsub := hb _ (findSub_mem hf)  -- the replacement has the same channel contents
    exact hset _ hsub
  | remove => exact fun x hx => hb x (List.mem_filter.1 hx).1

end Whv.Spy
