import Whv.Model.Db
/-! Lemmas about the store model `Whv/Model/Db.lean`, for C12: keys determine identifiers, what the store of a history of puts holds
and what a prefix scan of it sees, and the scan loops in closed form. -/
namespace Whv.Db
open Whv

theorem append_sep_inj {α : Type} {sep : α} {a b x y : List α} (ha : sep ∉ a) (hb : sep ∉ b)
    (h : a ++ sep :: x = b ++ sep :: y) : a = b ∧ x = y := by
  induction a generalizing b with
  | nil =>
    cases b with
    | nil => simpa using h
    | cons c cs => exact absurd (List.cons.inj h).1 (fun e => hb (by simp [e]))
  | cons c cs ih =>
    cases b with
    | nil => exact absurd (List.cons.inj h).1 (fun e => ha (by simp [e]))
    | cons d ds =>
      simp only [List.cons_append, List.cons.injEq] at h
      simp only [List.mem_cons, not_or] at ha hb
      obtain ⟨e1, e2⟩ := ih ha.2 hb.2 h.2
      exact ⟨by rw [h.1, e1], e2⟩

/-! ## decimal and hex rendering: each has a left inverse, which is where injectivity comes from -/

theorem decChars_eq (n : Nat) : decChars n = Nat.toDigits 10 n := by
  simp [decChars, Nat.toList_repr]

theorem decChars_isDigit {n : Nat} {c : Char} (h : c ∈ decChars n) : c.isDigit = true := by
  rw [decChars_eq] at h
  exact Nat.isDigit_of_mem_toDigits (by decide) (by decide) h

theorem decChars_no_slash {n : Nat} : '/' ∉ decChars n :=
  fun h => absurd (decChars_isDigit h) (by decide)

theorem decChars_ne_nil (n : Nat) : decChars n ≠ [] := by
  rw [decChars_eq]; exact Nat.toDigits_ne_nil

theorem ofDigitChars_decChars (n : Nat) : Nat.ofDigitChars 10 (decChars n) 0 = n := by
  rw [decChars_eq]; exact Nat.ofDigitChars_ten_toDigits

theorem decChars_inj {a b : Nat} (h : decChars a = decChars b) : a = b := by
  rw [← ofDigitChars_decChars a, ← ofDigitChars_decChars b, h]

theorem hexChars_cons (a : UInt8) (as : Bytes) : hexChars (a :: as) = hexOfByte a ++ hexChars as := by
  simp [hexChars]

theorem hexChars_length (b : Bytes) : (hexChars b).length = 2 * b.length := by
  induction b with
  | nil => rfl
  | cons a as ih =>
    have h2 : (hexOfByte a).length = 2 := rfl
    rw [hexChars_cons, List.length_append, ih, h2, List.length_cons, Nat.mul_succ, Nat.add_comm]

theorem hexVal_hexDigit : ∀ n, n < 16 → hexVal (hexDigit n) = some n := by decide +kernel

theorem unhexChars_hexChars (b : Bytes) : unhexChars (hexChars b) = some b := by
  induction b with
  | nil => rfl
  | cons a as ih =>
    have ha : a.toNat < 16 * 16 := a.toNat_lt
    simp only [hexChars_cons, hexOfByte, List.cons_append, List.nil_append, unhexChars, ih,
      hexVal_hexDigit _ (Nat.div_lt_of_lt_mul ha), hexVal_hexDigit _ (Nat.mod_lt _ (by decide : 0 < 16)),
      Nat.div_add_mod', UInt8.ofNat_toNat]

theorem hexChars_inj {a b : Bytes} (h : hexChars a = hexChars b) : a = b :=
  Option.some.inj (by rw [← unhexChars_hexChars a, h, unhexChars_hexChars])

/-! ## keys: `govPrefix ⊂ emitterPrefix ⊂ key`, each step appends `/` and a decimal -/

theorem emitterPrefix_split (ec : Nat) (addr : Bytes) (tc : Nat) :
    emitterPrefix ec addr tc = govPrefix ec addr ++ '/' :: decChars tc := by
  simp [govPrefix, emitterPrefix, List.append_assoc]

theorem key_split (i : VaaId) :
    key i = emitterPrefix i.emitterChain i.emitter i.targetChain ++ '/' :: decChars i.sequence := by
  simp [key, emitterPrefix, List.append_assoc]

theorem gapPrefix_append (ec : Nat) (addr : Bytes) (tc : Nat) (t : List Char) :
    gapPrefix ec addr tc ++ t = emitterPrefix ec addr tc ++ '/' :: t := by
  simp [gapPrefix]

/-- The emitter chain ends at the first `/`, the address has fixed width. -/
theorem govPrefix_append_inj {ec ec' : Nat} {addr addr' : Bytes} {x y : List Char} (hl : addr.length = addr'.length)
    (h : govPrefix ec addr ++ x = govPrefix ec' addr' ++ y) : ec = ec' ∧ addr = addr' ∧ x = y := by
  simp only [govPrefix, List.append_assoc, List.cons_append] at h
  obtain ⟨e1, h2⟩ := append_sep_inj decChars_no_slash decChars_no_slash (List.append_cancel_left h)
  obtain ⟨e2, e3⟩ := List.append_inj h2 (by rw [hexChars_length, hexChars_length, hl])
  exact ⟨decChars_inj e1, hexChars_inj e2, e3⟩

theorem emitterPrefix_append_inj {ec ec' tc tc' : Nat} {addr addr' : Bytes} {x y : List Char} (hl : addr.length = addr'.length)
    (h : emitterPrefix ec addr tc ++ '/' :: x = emitterPrefix ec' addr' tc' ++ '/' :: y) :
    ec = ec' ∧ addr = addr' ∧ tc = tc' ∧ x = y := by
  simp only [emitterPrefix_split, List.append_assoc, List.cons_append] at h
  obtain ⟨e1, e2, h3⟩ := govPrefix_append_inj hl h
  obtain ⟨e3, e4⟩ := append_sep_inj decChars_no_slash decChars_no_slash (List.cons.inj h3).2
  exact ⟨e1, e2, decChars_inj e3, e4⟩

theorem key_inj {a b : VaaId} (hl : a.emitter.length = b.emitter.length) (h : key a = key b) : a = b := by
  rw [key_split, key_split] at h
  obtain ⟨e1, e2, e3, e4⟩ := emitterPrefix_append_inj hl h
  have e5 := decChars_inj e4
  cases a; cases b; simp_all

theorem gapPrefix_prefix_iff {ec : Nat} {addr : Bytes} {tc : Nat} {i : VaaId} (hl : addr.length = i.emitter.length) :
    gapPrefix ec addr tc <+: key i ↔ i.emitterChain = ec ∧ i.emitter = addr ∧ i.targetChain = tc := by
  constructor
  · rintro ⟨t, ht⟩
    rw [gapPrefix_append, key_split] at ht
    obtain ⟨e1, e2, e3, _⟩ := emitterPrefix_append_inj hl ht
    exact ⟨e1.symm, e2.symm, e3.symm⟩
  · rintro ⟨e1, e2, e3⟩
    exact ⟨decChars i.sequence, by rw [gapPrefix_append, key_split, e1, e2, e3]⟩

theorem govPrefix_prefix_iff {ec : Nat} {addr : Bytes} {i : VaaId} (hl : addr.length = i.emitter.length) :
    govPrefix ec addr <+: key i ↔ i.emitterChain = ec ∧ i.emitter = addr := by
  rw [key_split, emitterPrefix_split, List.append_assoc]
  constructor
  · rintro ⟨t, ht⟩
    obtain ⟨e1, e2, _⟩ := govPrefix_append_inj hl ht
    exact ⟨e1.symm, e2.symm⟩
  · rintro ⟨e1, e2⟩
    exact ⟨_, by rw [e1, e2]⟩

theorem mem_put {st : Store} {k : Key} {v : Bytes} {e : Key × Bytes} :
    e ∈ st.put k v ↔ e = (k, v) ∨ (e ∈ st ∧ e.1 ≠ k) := by
  simp [Store.put, List.mem_filter]

theorem get_put (st : Store) (k k' : Key) (v : Bytes) :
    (st.put k v).get k' = if k' = k then some v else st.get k' := by
  unfold Store.put Store.get
  by_cases h : k' = k
  · simp [h]
  · have hk : (k == k') = false := beq_false_of_ne (Ne.symm h)
    -- `List.find?_filter` leaves the conjunction of both tests as the predicate; under `k' ≠ k` it is the second test
    have hf : ∀ a : Key × Bytes, decide ((a.1 != k) = true ∧ (a.1 == k') = true) = (a.1 == k') := by
      intro a
      by_cases ha : a.1 = k' <;> simp [ha, h]
    simp only [if_neg h, List.find?_cons, hk, List.find?_filter, hf]

theorem mem_scan {st : Store} {p : Key} {e : Key × Bytes} : e ∈ st.scan p ↔ e ∈ st ∧ p <+: e.1 := by
  simp [Store.scan, Store.iter, List.mem_filter]

theorem run_snoc (h : List Put) (p : Put) : run (h ++ [p]) = (run h).put (key p.1) p.2 := by
  simp [run, List.foldl_append]

theorem lastStored_snoc (h : List Put) (p : Put) (id : VaaId) :
    lastStored (h ++ [p]) id = if p.1 = id then some p.2 else lastStored h id := by
  unfold lastStored
  by_cases e : p.1 = id <;> simp [List.filter_append, e]

theorem lastStored_nil (id : VaaId) : lastStored [] id = none := rfl

theorem lastStored_some_mem {h : List Put} {id : VaaId} {b : Bytes} (hl : lastStored h id = some b) : (id, b) ∈ h := by
  obtain ⟨q, hq, rfl⟩ := Option.map_eq_some_iff.1 hl
  have hm := List.mem_filter.1 (List.mem_of_getLast? hq)
  have : q.1 = id := by simpa using hm.2
  rw [← this]; exact hm.1

theorem exists_lastStored_of_mem {h : List Put} {id : VaaId} (hm : id ∈ h.map (·.1)) : ∃ b, lastStored h id = some b := by
  obtain ⟨q, hq, rfl⟩ := List.mem_map.1 hm
  cases hg : (h.filter fun p => p.1 == q.1).getLast? with
  | none =>
    have : q ∈ h.filter fun p => p.1 == q.1 := by simp [List.mem_filter, hq]
    rw [List.getLast?_eq_none_iff.1 hg] at this; cases this
  | some r => exact ⟨r.2, by simp [lastStored, hg]⟩

/-- Identifiers as the Go type can hold them: a 32-byte emitter address. -/
def IdOK (i : VaaId) : Prop := i.emitter.length = 32

instance (i : VaaId) : Decidable (IdOK i) := by unfold IdOK; exact inferInstance

/-! What the key functions need of a VAA in the C05 domain. `Body.WF` writes its bounds as `256 ^ k`, the key parser's are
`2 ^ (8 k)`: the same numbers. -/

theorem _root_.Whv.Vaa.WF.idOK {v : Vaa} (h : v.WF) : IdOK v.body.id := h.2.2.2.2.1.2.2.2.2.1

theorem _root_.Whv.Vaa.WF.targetChain_lt {v : Vaa} (h : v.WF) : v.body.targetChain < 2 ^ 16 := h.2.2.2.2.1.2.2.2.1

theorem _root_.Whv.Vaa.WF.sequence_lt {v : Vaa} (h : v.WF) : v.body.sequence < 2 ^ 64 := h.2.2.2.2.1.2.2.2.2.2.1

theorem get_run (h : List Put) (hok : ∀ p ∈ h, IdOK p.1) (id : VaaId) (hid : IdOK id) :
    (run h).get (key id) = lastStored h id := by
  induction h using snoc_induction with
  | hnil => rfl
  | hsnoc h p ih =>
    have ih' := ih (fun q hq => hok q (by simp [hq]))
    have hp : IdOK p.1 := hok p (by simp)
    rw [run_snoc, get_put, lastStored_snoc, ih']
    by_cases e : p.1 = id
    · simp [e]
    · have : key id ≠ key p.1 := fun hk => e (key_inj (by rw [hp, hid]) hk).symm
      simp [e, this]

theorem mem_run (h : List Put) (hok : ∀ p ∈ h, IdOK p.1) (k : Key) (b : Bytes) :
    (k, b) ∈ run h ↔ ∃ id, k = key id ∧ lastStored h id = some b := by
  induction h using snoc_induction with
  | hnil => simp [run, lastStored_nil]
  | hsnoc h p ih =>
    have hok' : ∀ q ∈ h, IdOK q.1 := fun q hq => hok q (by simp [hq])
    have hp : IdOK p.1 := hok p (by simp)
    simp only [run_snoc, mem_put, ih hok', lastStored_snoc, Prod.mk.injEq]
    constructor
    · rintro (⟨rfl, rfl⟩ | ⟨⟨id, rfl, hl⟩, hne⟩)
      · exact ⟨p.1, rfl, by simp⟩
      · exact ⟨id, rfl, by rw [if_neg fun e => hne (by rw [e]), hl]⟩
    · rintro ⟨id, rfl, hl⟩
      by_cases e : p.1 = id
      · rw [if_pos e] at hl
        exact .inl ⟨by rw [e], (Option.some.inj hl).symm⟩
      · rw [if_neg e] at hl
        exact .inr ⟨⟨id, rfl, hl⟩, fun hk => e (key_inj (by rw [hp, hok' _ (lastStored_some_mem hl)]) hk).symm⟩

theorem mem_scan_run {h : List Put} (hok : ∀ p ∈ h, IdOK p.1) {pfx : Key} {P : VaaId → Prop}
    (hP : ∀ id, IdOK id → (pfx <+: key id ↔ P id)) {k : Key} {b : Bytes} :
    (k, b) ∈ (run h).scan pfx ↔ ∃ id, P id ∧ k = key id ∧ lastStored h id = some b := by
  rw [mem_scan, mem_run h hok]
  constructor
  · rintro ⟨⟨id, rfl, hl⟩, hp⟩
    exact ⟨id, (hP id (hok _ (lastStored_some_mem hl))).1 hp, rfl, hl⟩
  · rintro ⟨id, hp, rfl, hl⟩
    exact ⟨⟨id, rfl, hl⟩, (hP id (hok _ (lastStored_some_mem hl))).2 hp⟩

/-- `⟨false, 0, m⟩` is the only shape the loop state takes from `gapOfSeqs`' start `⟨false, 0, 0⟩`. -/
theorem minMaxStep_false (m k : Nat) : minMaxStep ⟨false, 0, m⟩ k = ⟨false, 0, max m k⟩ := by
  have h0 : ¬ k < 0 := Nat.not_lt_zero k
  by_cases h : k > m
  · simp only [minMaxStep, Bool.false_eq_true, if_false, h0, h, if_true, Nat.max_eq_right (Nat.le_of_lt h)]
  · simp only [minMaxStep, Bool.false_eq_true, if_false, h0, h, Nat.max_eq_left (Nat.not_lt.1 h)]

theorem minMax_fold (seqs : List Nat) (m : Nat) : seqs.foldl minMaxStep ⟨false, 0, m⟩ = ⟨false, 0, seqs.foldl max m⟩ := by
  induction seqs generalizing m with
  | nil => rfl
  | cons k ks ih => rw [List.foldl_cons, List.foldl_cons, minMaxStep_false, ih]

/-- The literal min/max loop of the Go code computes the specification (`first` never leaves its zero value). -/
theorem gapOfSeqs_eq_specGap (seqs : List Nat) : gapOfSeqs seqs = specGap seqs := by
  unfold gapOfSeqs specGap maxSeq
  rw [minMax_fold]
  simp [List.range_eq_range']

theorem maxSeq_spec (l : List Nat) : (∀ x ∈ l, x ≤ maxSeq l) ∧ (maxSeq l = 0 ∨ maxSeq l ∈ l) := by
  rw [maxSeq, List.foldl_max, Nat.zero_max]
  cases h : l.max? with
  | none => simp [List.max?_eq_none_iff.1 h]
  | some a =>
    obtain ⟨h1, h2⟩ := List.max?_eq_some_iff.1 h
    exact ⟨h2, .inr h1⟩

theorem maxSeq_mono {l1 l2 : List Nat} (h : ∀ x ∈ l1, x ∈ l2) : maxSeq l1 ≤ maxSeq l2 := by
  rcases (maxSeq_spec l1).2 with e | e
  · rw [e]; exact Nat.zero_le _
  · exact (maxSeq_spec l2).1 _ (h _ e)

theorem specGap_congr {l1 l2 : List Nat} (h : ∀ x, x ∈ l1 ↔ x ∈ l2) : specGap l1 = specGap l2 := by
  unfold specGap
  rw [Nat.le_antisymm (maxSeq_mono fun x => (h x).1) (maxSeq_mono fun x => (h x).2)]
  congr 1
  apply List.filter_congr
  intro x _
  rw [Bool.eq_iff_iff]; simp [h x]

theorem decodeAll_eq (l : List (Key × Bytes)) :
    decodeAll l = if l.all fun e => (unmarshal e.2).isSome then some (l.filterMap fun e => unmarshal e.2) else none := by
  induction l with
  | nil => rfl
  | cons e r ih =>
    rw [decodeAll, ih, List.all_cons, List.filterMap_cons]
    cases unmarshal e.2 with
    | none => rfl
    | some v => cases r.all fun e => (unmarshal e.2).isSome <;> rfl

theorem findGap_eq (st : Store) (ec : Nat) (addr : Bytes) (tc : Nat) :
    findGap st ec addr tc =
      if (st.scan (gapPrefix ec addr tc)).all fun e => (unmarshal e.2).isSome then
        specGap (((st.scan (gapPrefix ec addr tc)).filterMap fun e => unmarshal e.2).map (·.body.sequence))
      else .err := by
  rw [findGap, decodeAll_eq]
  by_cases h : ((st.scan (gapPrefix ec addr tc)).all fun e => (unmarshal e.2).isSome) = true
  · rw [if_pos h, if_pos h]
    exact gapOfSeqs_eq_specGap _
  · rw [if_neg h, if_neg h]

theorem parseUint_decChars {bits n : Nat} (h : n < 2 ^ bits) : parseUint bits (decChars n) = some n := by
  unfold parseUint
  have h1 : (decChars n).isEmpty = false := List.isEmpty_eq_false_iff.2 (decChars_ne_nil n)
  have h2 : (decChars n).all Char.isDigit = true := List.all_eq_true.2 fun _ hc => decChars_isDigit hc
  simp [h1, h2, ofDigitChars_decChars, h]

theorem splitLastSlash_append {a d : List Char} (hd : '/' ∉ d) : splitLastSlash (a ++ '/' :: d) = some (a, d) := by
  unfold splitLastSlash
  have hr : (a ++ '/' :: d).reverse = d.reverse ++ '/' :: a.reverse := by simp
  have hall : ∀ c ∈ d.reverse, (c != '/') = true := by
    intro c hc
    have : c ∈ d := by simpa using hc
    have : c ≠ '/' := fun e => hd (e ▸ this)
    simpa using this
  simp only [hr]
  rw [List.dropWhile_append_of_pos hall, List.takeWhile_append_of_pos hall]
  simp

theorem govEntry_key (seqs : List Nat) {i : VaaId} {b : Bytes} (htc : i.targetChain < 2 ^ 16) (hsq : i.sequence < 2 ^ 64) :
    govEntry seqs (key i, b) =
      some (if i.sequence ∈ seqs then some ⟨i.targetChain, i.sequence, b⟩ else none) := by
  unfold govEntry
  simp only [key_split i, splitLastSlash_append decChars_no_slash, parseUint_decChars hsq]
  by_cases hc : i.sequence ∈ seqs
  · have hc' : seqs.contains i.sequence = true := by simpa using hc
    simp only [hc', Bool.not_true, emitterPrefix_split, splitLastSlash_append decChars_no_slash, parseUint_decChars htc]
    simp [hc]
  · simp [hc]

theorem govLoop_eq_filterMap (seqs : List Nat) {l : List (Key × Bytes)} (h : ∀ e ∈ l, (govEntry seqs e).isSome) :
    govLoop seqs l = some (l.filterMap fun e => (govEntry seqs e).join) := by
  induction l with
  | nil => rfl
  | cons e r ih =>
    have he := h e (by simp)
    rw [govLoop, ih fun e' he' => h e' (by simp [he'])]
    cases hg : govEntry seqs e with
    | none => simp [hg] at he
    | some o => cases o <;> simp [hg]

/-! ## the RPC handlers: what their steps do on well-formed input, and the fallible batch loop in closed form -/

theorem narrow16_of_lt {n : Nat} (h : n < 65536) : narrow16 (n : Int) = n := by
  have : (n : Int) % 65536 = n := Int.emod_eq_of_lt (Int.natCast_nonneg n) (Int.ofNat_lt.2 h)
  rw [narrow16, this, Int.toNat_natCast]

theorem decodeEmitterAddress_ok {s : List Char} {a : Bytes} (hs : unhexChars s = some a) (ha : a.length = 32) :
    decodeEmitterAddress s = .ok a := by
  simp [decodeEmitterAddress, hs, ha]

theorem copyTo32_of_length {a : Bytes} (ha : a.length = 32) : copyTo32 a = a := by
  rw [copyTo32, ← ha, List.take_left']
  rfl

theorem batchLoopAt_eq (rd : Readable) (st : Store) (mk : Nat → VaaId) (seqs : List Nat) :
    batchLoopAt rd st mk seqs =
      if seqs.all (fun q => rd (mk q)) then .ok (seqs.filterMap fun s => (getSignedVAABytes st (mk s)).map fun b => (s, b))
      else .error .internal := by
  induction seqs with
  | nil => rfl
  | cons s r ih =>
    rw [batchLoopAt, ih, getAt, List.all_cons, List.filterMap_cons]
    cases rd (mk s) with
    | false => rfl
    | true =>
      cases getSignedVAABytes st (mk s) with
      | none => rfl
      | some b => cases r.all (fun q => rd (mk q)) <;> rfl

end Whv.Db
