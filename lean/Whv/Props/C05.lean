import Whv.Lemmas.Vaa
/-!
# C05 — the VAA wire encoding round-trips exactly and the decoder is total

Model: `Whv.marshal` / `Whv.unmarshal` (`Whv/Model/Vaa.lean`), tied to `vaa.Unmarshal` / `(*VAA).Marshal`
in `/repo` by the correspondence run of `checks/c05.py` on every run.
`unmarshal : Bytes → Option Vaa` is a total Lean function: `none` is "`(nil, err)`"; a Go panic or a
partially filled result cannot be expressed in it, so that half of the statement is carried by the tie.
-/
namespace Whv.C05
open Whv

/-- Decoding the encoding of any VAA in the statement's domain yields that VAA, whatever the payload length. -/
theorem decode_encode (v : Vaa) (h : v.WF) : unmarshal (marshal v) = some v := by
  obtain ⟨hv, hg, hn, hs, hb, hp⟩ := h
  have hlen : ¬ (marshal v).length < minVAALength := by
    have hpl : 0 < v.body.payload.length := List.length_pos_iff.mpr hp
    simp only [marshal, List.length_append, be_length, serializeBody_length hb, minVAALength]
    omega
  rw [unmarshal, if_neg hlen]
  simp only [marshal, takeN_be, hv, unbe_be1 (by omega : 1 < 256), unbe_be1 (by omega : v.sigs.length < 256), unbe_be_of_lt hg,
    readSigs_sigsBytes hs, readBody_serializeBody hb hp, ne_eq, not_true_eq_false, if_false]
  -- the decoder writes the literal 1 for the version
  cases v; cases hv; rfl

/-- Conversely, whatever the decoder accepts re-encodes to exactly the input bytes: nothing accepted is
truncated or altered — and what it returns is always a complete, in-range VAA. -/
theorem encode_decode (bs : Bytes) (v : Vaa) (h : unmarshal bs = some v) : marshal v = bs ∧ v.WF := by
  revert h
  fun_cases unmarshal bs with
  -- the one branch that returns a VAA
  | case8 hlen ver r0 e0 hver gs r1 e1 n r2 e2 sigs r3 e3 body e4 =>
    rintro ⟨⟩
    have ⟨a0, _⟩ := takeN_some_be e0
    have ⟨a1, h1⟩ := takeN_some_be e1
    have ⟨a2, h2⟩ := takeN_some_be e2
    have ⟨a3, l3, w3⟩ := readSigs_some e3
    have ⟨a4, w4, p4⟩ := readBody_some e4
    rw [Decidable.not_not] at hver
    refine ⟨?_, rfl, h1, ?_, w3, w4, p4⟩
    · rw [a0, a1, a2, a3, a4, hver, ← l3, marshal]
    -- the count (`l3`) was read from one byte (`h2`)
    · show sigs.length ≤ 255
      omega
  | _ => nofun

/-- Corollary: the signing body (hence the digest, a function of it — C04) survives the round trip. -/
theorem digest_preserved (v : Vaa) (h : v.WF) :
    (unmarshal (marshal v)).map (fun w => serializeBody w.body) = some (serializeBody v.body) := by
  rw [decode_encode v h]; rfl

/-- The decoder is injective on what it accepts: two accepted byte strings that decode to the same VAA are equal. -/
theorem unmarshal_injective (a b : Bytes) (v : Vaa) (ha : unmarshal a = some v) (hb : unmarshal b = some v) : a = b := by
  rw [← (encode_decode a v ha).1, ← (encode_decode b v hb).1]

/-- Everything below the length floor is rejected. -/
theorem short_rejected (bs : Bytes) (h : bs.length < 57) : unmarshal bs = none := by
  unfold unmarshal minVAALength; rw [if_pos h]

/-- An unsupported version byte is rejected whatever follows. -/
theorem bad_version_rejected (b : UInt8) (rest : Bytes) (h : b.toNat ≠ 1) : unmarshal (b :: rest) = none := by
  have ht : takeN 1 (b :: rest) = some ([b], rest) := takeN_append_of_length (a := [b]) rfl
  have hb : unbe [b] = b.toNat := by simp [unbe]
  rw [unmarshal, ht]
  by_cases hl : (b :: rest).length < minVAALength
  · exact if_pos hl
  -- long enough: the version read is `b`, and the `if` on it rejects
  · rw [if_neg hl]
    exact if_pos (hb ▸ h)

/-- **Decode histories.**  Decoding is a function of the bytes handed over and of nothing else: whatever run of strings was decoded
before (the list `earlier` — e.g. what the caller's read buffer held previously), the encoding of an in-domain VAA `v` decodes to `v`;
and two in-domain VAAs whose encodings have the same length (a reused buffer) but differ anywhere decode to different values. -/
theorem decode_sequence (earlier : List Bytes) (v : Vaa) (h : v.WF) :
    ((earlier ++ [marshal v]).map unmarshal).getLast? = some (some v) := by
  simp [decode_encode v h]

theorem reused_buffer_distinct (a b : Vaa) (ha : a.WF) (hb : b.WF) (hne : a ≠ b) :
    unmarshal (marshal a) = some a ∧ unmarshal (marshal b) = some b ∧ marshal a ≠ marshal b := by
  refine ⟨decode_encode a ha, decode_encode b hb, fun he => hne ?_⟩
  have := decode_encode a ha
  rw [he, decode_encode b hb] at this
  exact (Option.some.inj this).symm

/-- Non-vacuity: a concrete 1001-byte payload VAA with two signatures is in the domain and round-trips
(the length at which the unrepaired decoder truncated). -/
def sample : Vaa :=
  { version := 1, gsIndex := 7,
    sigs := [⟨0, List.replicate 65 3⟩, ⟨2, List.replicate 65 9⟩],
    body := { ts := 1700000000, nonce := 42, emitterChain := 255, targetChain := 2,
              emitter := List.replicate 32 1, sequence := 2 ^ 63, consistency := 255,
              payload := List.replicate 1001 7 } }

example : sample.WF := by decide +kernel
example : unmarshal (marshal sample) = some sample := decode_encode _ (by decide +kernel)
-- the same message with the next sequence number: same length, another value
private def small (seq : Nat) : Vaa :=
  { version := 1, gsIndex := 0, sigs := [⟨1, List.replicate 65 3⟩],
    body := { ts := 5, nonce := 1, emitterChain := 255, targetChain := 2, emitter := List.replicate 32 1, sequence := seq,
              consistency := 1, payload := [7, 8] } }
example : (small 41).WF ∧ (small 42).WF := by decide +kernel
example : small 41 ≠ small 42 := by simp [small]
example : (marshal (small 41)).length = (marshal (small 42)).length := by decide +kernel

end Whv.C05
