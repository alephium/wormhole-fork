import Whv.Lemmas.Reobserve
import Whv.Gen.C17
/-!
# C17 — re-observation requests are routed once per transaction and never block

Model: `Whv.Reobserve` (`dispatch`, `purge`, histories `run`, the queue system `step`/`runOps`, `post`).
Every theorem is for every cache, every history / operation sequence, every queue answer and every window `w`;
the extracted durations (`Whv.Gen.C17`) appear only in the last two theorems and in the 1100-request example.
-/
namespace Whv.C17
open Whv Whv.Reobserve

/-! ### routing: only the named chain, exactly when not remembered and the watcher has room -/

/-- A request is forwarded only to the watcher of the chain it names (the 16-bit `vaa.ChainID` of its `chain_id`),
and only if that watcher exists and its queue had room. -/
theorem c17_only_named_chain (c c' : Cache) (now : Nat) (r : Req) (room : Nat → Option Bool) (ch : Nat)
    (h : dispatch c now r room = (c', .forwarded ch)) :
    ch = r.chain % 65536 ∧ room ch = some true ∧ hasKey c r.key = false :=
  let ⟨h1, h2, h3, _⟩ := dispatch_forwarded h
  ⟨h1, h2, h3⟩

example : dispatch [] 5 ⟨65538, [1]⟩ (fun ch => if ch = 2 then some true else none) = ([((2, [1]), 5)], .forwarded 2) := by
  decide +kernel

/-- Forwarded exactly when the key is not remembered and the named watcher's queue has room. -/
theorem c17_forwarded_iff (c : Cache) (now : Nat) (r : Req) (room : Nat → Option Bool) :
    (dispatch c now r room).2 = .forwarded (r.chain % 65536) ↔
      hasKey c r.key = false ∧ room (r.chain % 65536) = some true := by
  refine ⟨fun h => ?_, fun h => ?_⟩
  · obtain ⟨_, hr, hk, _⟩ := dispatch_forwarded (c' := (dispatch c now r room).1) (Prod.ext rfl h)
    exact ⟨hk, hr⟩
  · rcases dispatch_cases c now r room with ⟨_, _, e⟩ | ⟨hd, _⟩
    · rw [e]
    · exact absurd h hd

example : (dispatch [((2, [1]), 5)] 9 ⟨2, [1]⟩ (fun _ => some true)).2 = .duplicate := by decide +kernel

/-- Unknown chain, full queue, or a remembered key: the request is dropped and NOT remembered — the cache is
unchanged (so the next request for the same transaction is judged afresh). -/
theorem c17_drop_not_remembered (c : Cache) (now : Nat) (r : Req) (room : Nat → Option Bool)
    (h : hasKey c r.key = true ∨ room (r.chain % 65536) = none ∨ room (r.chain % 65536) = some false) :
    (dispatch c now r room).1 = c ∧ ∀ ch, (dispatch c now r room).2 ≠ .forwarded ch := by
  rcases dispatch_cases c now r room with ⟨hk, hr, _⟩ | ⟨_, o, e, ho⟩
  · simp [hk, hr] at h
  · rw [e]
    exact ⟨rfl, by rcases ho with ⟨_, rfl⟩ | ⟨_, rfl⟩ | ⟨_, rfl⟩ <;> nofun⟩

example : dispatch [] 5 ⟨2, [1]⟩ (fun _ => some false) = ([], .full) ∧
    dispatch [] 5 ⟨9, [1]⟩ (fun _ => none) = ([], .unknown) := by decide +kernel

/-- A forwarded request is remembered with the time of the forward. -/
theorem c17_forward_remembered (c c' : Cache) (now : Nat) (r : Req) (room : Nat → Option Bool) (ch : Nat)
    (h : dispatch c now r room = (c', .forwarded ch)) : c' = (r.key, now) :: c :=
  (dispatch_forwarded h).2.2.2

example : (dispatch [] 7 ⟨2, [1]⟩ (fun _ => some true)).1 = [((2, [1]), 7)] := by decide +kernel

/-- Along every history the cache holds at most one entry per (chain, transaction). -/
theorem c17_cache_one_entry_per_key (w : Nat) (evs : List Ev) (c : Cache) (h : KeysNodup c) :
    KeysNodup (run w c evs).1 :=
  keysNodup_run w evs c h

example : KeysNodup (run 10 [] [.req 0 ⟨2, [1]⟩ (some true), .req 1 ⟨2, [1]⟩ (some true), .req 1 ⟨3, [1]⟩ (some true)]).1 := by
  unfold KeysNodup
  decide +kernel

/-- While no purge tick later than `forward + w` has happened, a remembered transaction stays remembered and is never
forwarded a second time — whatever else is requested, on whatever chains, with whatever queue answers. -/
theorem c17_suppressed_within_window (w : Nat) (evs : List Ev) (c : Cache) (k : Key) (t0 : Nat)
    (hmem : (k, t0) ∈ c) (hticks : ∀ T, Ev.tick T ∈ evs → T ≤ t0 + w) :
    (k, t0) ∈ (run w c evs).1 ∧ ∀ f ∈ (run w c evs).2, f.1 ≠ k := by
  induction evs generalizing c with
  | nil => exact ⟨hmem, nofun⟩
  | cons e es ih =>
    rw [run_cons]
    have ht := fun T hT => hticks T (List.mem_cons_of_mem _ hT)
    rcases stepEv_cases w c e with ⟨T, rfl, h⟩ | h | ⟨k', hk, h⟩ <;> rw [h]
    · exact ih _ (mem_purge.2 ⟨hmem, Nat.not_lt.2 (hticks T List.mem_cons_self)⟩) ht
    · exact ih c hmem ht
    · obtain ⟨ih1, ih2⟩ := ih _ (List.mem_cons_of_mem _ hmem) ht
      refine ⟨ih1, fun f hf => ?_⟩
      rcases List.mem_cons.1 hf with rfl | hf
      · -- the key just forwarded was not remembered, `k` is
        rintro rfl
        exact hasKey_false_iff.1 hk t0 hmem
      · exact ih2 f hf

example : (run 10 [((2, [1]), 0)] [.tick 10, .req 10 ⟨2, [1]⟩ (some true), .req 10 ⟨3, [1]⟩ (some true)]).2 = [((3, [1]), 10)] := by
  decide +kernel

/-- **At most once per window.**  In every history on which the clock does not go backwards, starting with an empty
cache, any two forwards of the same (chain, transaction) are more than `w` apart. -/
theorem c17_at_most_once_per_window (w : Nat) (evs : List Ev) (lb : Nat) (hmono : Monotone lb evs) :
    (run w [] evs).2.Pairwise (fun a b => a.1 = b.1 → b.2 > a.2 + w) :=
  forwards_pairwise_window w evs hmono

example : (run 10 [] [.req 0 ⟨2, [1]⟩ (some true), .req 5 ⟨2, [1]⟩ (some true), .tick 10, .req 10 ⟨2, [1]⟩ (some true),
    .tick 11, .req 11 ⟨2, [1]⟩ (some true)]).2 = [((2, [1]), 0), ((2, [1]), 11)] := by decide +kernel

/-! ### forwarded again once the window has lapsed -/

/-- After any history, once a purge tick later than `forward + w` has been handled the transaction is no longer
remembered, so the next request for it whose watcher has room is forwarded again. -/
theorem c17_again_after_window (w : Nat) (evs : List Ev) (k : Key) (t0 T now : Nat) (r : Req)
    (room : Nat → Option Bool)
    (hmem : (k, t0) ∈ (run w [] evs).1) (hT : T > t0 + w) (hr : r.key = k)
    (hroom : room (r.chain % 65536) = some true) :
    dispatch (purge w T (run w [] evs).1) now r room =
      ((r.key, now) :: purge w T (run w [] evs).1, .forwarded (r.chain % 65536)) := by
  rcases dispatch_cases (purge w T (run w [] evs).1) now r room with ⟨_, _, e⟩ | ⟨hd, _⟩
  · exact e
  · exact absurd ⟨hr ▸ purge_removes (keysNodup_run w evs [] .nil) hmem hT, hroom⟩ hd

example : (run 10 [] [.req 3 ⟨2, [1]⟩ (some true), .tick 13, .req 13 ⟨2, [1]⟩ (some true), .tick 14,
    .req 20 ⟨2, [1]⟩ (some true)]).2 = [((2, [1]), 3), ((2, [1]), 20)] := by decide +kernel

/-! ### scale: more than a thousand distinct pairs inside one window -/

/-- `n` requests for `n` distinct transactions of chain 2 (32-byte ids), one per nanosecond from `t` on; the watcher
always has room. -/
def bulk (t : Nat) : Nat → List Ev
  | 0 => []
  | n + 1 => .req t ⟨2, be 32 t⟩ (some true) :: bulk (t + 1) n

private theorem monotone_bulk_append (n : Nat) : ∀ (t lb : Nat) (rest : List Ev), lb ≤ t → Monotone (t + n) rest →
    Monotone lb (bulk t n ++ rest) := by
  induction n with
  | zero => exact fun t lb rest h hr => monotone_weaken hr h
  | succ n ih =>
    intro t lb rest h hr
    exact ⟨h, ih (t + 1) t rest (Nat.le_succ t) (by rwa [Nat.add_right_comm])⟩

private theorem no_tick_in_bulk (n : Nat) : ∀ (t T : Nat) (rest : List Ev), Ev.tick T ∈ bulk t n ++ rest → Ev.tick T ∈ rest := by
  induction n with
  | zero => exact fun t T rest h => h
  | succ n ih =>
    intro t T rest h
    rcases List.mem_cons.1 h with h | h
    · cases h
    · exact ih (t + 1) T rest h

/-- A request of `bulk t n` whose key is not in the cache yet is remembered, with its own time, when the bulk is through:
the transaction ids are distinct (`be 32` is injective below `256 ^ 32`) and no purge happens in between. -/
private theorem mem_run_bulk (w n : Nat) : ∀ (t : Nat) (c : Cache) (i : Nat), t ≤ i → i < t + n → t + n ≤ 256 ^ 32 →
    hasKey c (2, be 32 i) = false → ((2, be 32 i), i) ∈ (run w c (bulk t n)).1 := by
  induction n with
  | zero => exact fun t c i h1 h2 => absurd h2 (Nat.not_lt.2 h1)
  | succ n ih =>
    intro t c i h1 h2 h3 hc
    rw [bulk, run_cons, stepEv_req]
    rcases Nat.eq_or_lt_of_le h1 with rfl | hlt
    · rw [if_pos ⟨hc, rfl⟩]
      -- it is remembered now and stays so: there is no tick in a bulk
      exact (c17_suppressed_within_window w (bulk (t + 1) n) _ (2, be 32 t) t List.mem_cons_self fun T hT =>
        nomatch no_tick_in_bulk n (t + 1) T [] ((List.append_nil _).symm ▸ hT)).1
    · refine ih (t + 1) _ i hlt (by rwa [Nat.add_right_comm]) (by rwa [Nat.add_right_comm]) ?_
      split
      · -- request `t` has just been remembered: its id is not that of request `i`
        have hne : be 32 t ≠ be 32 i := fun h =>
          Nat.ne_of_lt hlt (be_inj_of_lt (Nat.lt_of_lt_of_le (Nat.lt_trans hlt h2) h3) (Nat.lt_of_lt_of_le h2 h3) h)
        rw [hasKey_cons, hc, Bool.or_false]
        exact beq_false_of_ne fun h => hne (Prod.mk.inj h).2
      · exact hc

-- 1100 distinct (chain, transaction) pairs within 1.1 µs, then pair 5 again: the hypothesis of
-- `c17_at_most_once_per_window` holds of this history …
example : Monotone 0 (bulk 0 1100 ++ [.req 1100 ⟨2, be 32 5⟩ (some true)]) :=
  monotone_bulk_append 1100 0 0 _ (Nat.le_refl _) ⟨Nat.le_refl _, trivial⟩

-- … and it is one in which something is suppressed: pair 5 is remembered after the first six requests, and neither the
-- 1094 distinct pairs that follow nor its own repeat forward it a second time
example : ((2, be 32 5), 5) ∈ (run Whv.Gen.C17.windowNs [] (bulk 0 6)).1 ∧
    ∀ f ∈ (run Whv.Gen.C17.windowNs (run Whv.Gen.C17.windowNs [] (bulk 0 6)).1
            (bulk 6 1094 ++ [.req 1100 ⟨2, be 32 5⟩ (some true)])).2, f.1 ≠ (2, be 32 5) :=
  have h := mem_run_bulk Whv.Gen.C17.windowNs 6 0 [] 5 (by decide) (by decide) (by decide) rfl
  ⟨h, (c17_suppressed_within_window _ _ _ _ 5 h fun T hT =>
    Ev.noConfusion (List.mem_singleton.1 (no_tick_in_bulk 1094 6 T _ hT))).2⟩

/-! ### never blocking: every send is a non-blocking one that found room -/

/-- `PostObservationRequest` fails exactly when the queue is full, leaves a full queue untouched, and otherwise
appends the request: it is a total function of the queue (there is no waiting outcome). -/
theorem c17_post_nonblocking (q : Chan) (r : Req) :
    ((post q r).2 = false ↔ q.cap ≤ q.items.length) ∧
    ((post q r).2 = false → (post q r).1 = q) ∧
    ((post q r).2 = true → (post q r).1 = { q with items := q.items ++ [r] }) := by
  unfold post Chan.trySend
  by_cases h : q.items.length < q.cap
  · simp [h]
  · simp [h]
    omega

example : post ⟨2, [⟨1, []⟩, ⟨1, [7]⟩]⟩ ⟨1, [9]⟩ = (⟨2, [⟨1, []⟩, ⟨1, [7]⟩]⟩, false) := by decide +kernel

/-- No watcher queue is ever over-filled. -/
def QueuesOk (s : State) : Prop := ∀ e ∈ s.chans, e.2.items.length ≤ e.2.cap

/-- **The dispatcher never performs a send that could block**: along every operation sequence (requests, ticks, watchers
draining, watchers appearing and disappearing) every queue stays within its capacity — each send happened only
when the non-blocking `select` found room. -/
theorem c17_dispatcher_never_blocks (w : Nat) (ops : List Op) (s : State) (h : QueuesOk s) : QueuesOk (runOps w s ops) := by
  induction ops generalizing s with
  | nil => exact h
  | cons o os ih =>
    refine ih _ fun e he => ?_
    rcases mem_chans_step he with he | h0 | ⟨q, hq, hcap, ⟨n, hi⟩ | ⟨hroom, r, _, hi⟩⟩
    · exact h e he
    · rw [h0]
      exact Nat.zero_le _
    · rw [hi, hcap, List.length_drop]
      exact Nat.le_trans (Nat.sub_le _ _) (h _ hq)
    · rw [hi, hcap, List.length_append]
      exact hroom

example : (runOps 10 { chans := [(2, ⟨1, []⟩)] } [.req 0 ⟨2, [1]⟩, .req 0 ⟨2, [2]⟩, .drain 2 1, .req 1 ⟨2, [2]⟩]).chans
    = [(2, ⟨1, [⟨2, [2]⟩]⟩)] := by decide +kernel

/-- In the queue system a request touches no queue other than the named chain's. -/
theorem c17_other_queues_untouched (w : Nat) (s : State) (now : Nat) (r : Req) (ch : Nat) (hne : ch ≠ r.chain % 65536) :
    (step w s (.req now r)).1.chans.lookup ch = s.chans.lookup ch := by
  rcases step_req_cases w s now r with ⟨h, _⟩ | ⟨_, _, q, _, _, h, _⟩
  · rw [h]
  · rw [h, setChan, List.lookup_cons, beq_false_of_ne hne]
    exact List.lookup_filter_fst_ne _ hne

example : (step 10 { chans := [(2, ⟨1, []⟩), (3, ⟨1, []⟩)] } (.req 0 ⟨2, [1]⟩)).1.chans.lookup 3 = some ⟨1, []⟩ := by decide +kernel

/-! ### the admin entry point posts like every other caller -/

/-- `SendObservationRequest` (the admin RPC) on the outbound request queue: it fails exactly when the queue is full and
then leaves the queue untouched; otherwise the caller's request, unchanged, becomes the last entry.  It is a total
function of the queue — whatever context the caller passes, there is no waiting outcome. -/
theorem c17_admin_post_nonblocking (q : Chan) (r : Req) :
    ((adminSend q r).2 = false ↔ q.cap ≤ q.items.length) ∧
    ((adminSend q r).2 = false → (adminSend q r).1 = q) ∧
    ((adminSend q r).2 = true → (adminSend q r).1 = { q with items := q.items ++ [r] }) :=
  c17_post_nonblocking q r

example : adminSend ⟨1, [⟨1, []⟩]⟩ ⟨1, [9]⟩ = (⟨1, [⟨1, []⟩]⟩, false) ∧
    adminSend ⟨2, [⟨1, []⟩]⟩ ⟨1, [9]⟩ = (⟨2, [⟨1, []⟩, ⟨1, [9]⟩]⟩, true) := by decide +kernel

/-! ### dropped means dropped: nothing reaches a watcher that a request of the history did not forward -/

/-- The passage of time alone — the clock moving on, or a purge tick — puts nothing on any watcher queue (and the
clock moving on does not touch the cache either). -/
theorem c17_time_alone_delivers_nothing (w : Nat) (s : State) (now : Nat) :
    step w s (.advance now) = (s, none) ∧ (step w s (.tick now)).1.chans = s.chans ∧
    fwdOf w s (.advance now) = [] ∧ fwdOf w s (.tick now) = [] := ⟨rfl, rfl, rfl, rfl⟩

example : (runOps 10 { chans := [(2, ⟨1, []⟩)] } [.advance 5, .tick 7, .advance 700]).chans = [(2, ⟨1, []⟩)] := by decide +kernel

/-- A request that finds no watcher, a full queue, or a remembered key forwards nothing, now or later: it contributes
nothing to `forwards`, and the whole state is as it was. -/
theorem c17_dropped_request_forwards_nothing (w : Nat) (s : State) (now : Nat) (r : Req)
    (h : hasKey s.cache r.key = true ∨ s.room (r.chain % 65536) = none ∨ s.room (r.chain % 65536) = some false) :
    fwdOf w s (.req now r) = [] ∧ (step w s (.req now r)).1 = s := by
  rcases step_req_cases w s now r with ⟨h1, h2⟩ | ⟨hk, hr, _⟩
  · exact ⟨h2, h1⟩
  · simp [hk, hr] at h

example : fwdOf 10 { chans := [(2, ⟨1, [⟨2, [7]⟩]⟩)] } (.req 0 ⟨2, [1]⟩) = [] ∧
    fwdOf 10 { chans := [(2, ⟨1, []⟩)] } (.req 0 ⟨2, [1]⟩) = [⟨2, [1]⟩] := by decide +kernel

/-- **Everything on a watcher queue is accounted for.**  Along every operation sequence (requests, purge ticks, the clock
moving on, watchers draining, appearing and disappearing) a request sits in a watcher queue only if it was there at
the start or a request of the sequence was forwarded with it (`forwards`: the `req` operations whose outcome is
`forwarded`).  There is no deferred delivery: what was dropped is gone. -/
theorem c17_queue_items_were_forwarded (w : Nat) (ops : List Op) (s : State) (x : Req)
    (h : InQueues (runOps w s ops) x) : InQueues s x ∨ x ∈ forwards w s ops := by
  induction ops generalizing s with
  | nil => exact Or.inl h
  | cons o os ih =>
    rw [forwards, List.mem_append]
    rcases ih _ h with ⟨e, he, hx⟩ | h'
    · -- `x` sits in queue `e` after `o`: see what `o` did to that queue
      rcases mem_chans_step he with he | h0 | ⟨q, hq, _, ⟨n, hi⟩ | ⟨_, r, hf, hi⟩⟩
      · exact .inl ⟨e, he, hx⟩
      · rw [h0] at hx
        cases hx
      · exact .inl ⟨_, hq, List.mem_of_mem_drop (hi ▸ hx)⟩
      · rcases List.mem_append.1 (hi ▸ hx) with hx | hx
        · exact .inl ⟨_, hq, hx⟩
        · exact .inr (.inl (hf ▸ hx))
    · exact .inr (.inr h')

/-- A request that was dropped (or never made) is never delivered later: starting from empty queues, a request that no
`req` operation of the sequence forwarded is in no watcher queue afterwards — however long the clock runs. -/
theorem c17_dropped_never_delivered (w : Nat) (ops : List Op) (s : State) (x : Req)
    (hempty : ∀ e ∈ s.chans, e.2.items = []) (hnot : x ∉ forwards w s ops) : ¬ InQueues (runOps w s ops) x := by
  intro h
  rcases c17_queue_items_were_forwarded w ops s x h with ⟨e, he, hx⟩ | h
  · rw [hempty e he] at hx
    cases hx
  · exact hnot h

-- chain 2's queue is full when [2] arrives; it drains; five seconds, a minute, the window pass: [2] is never delivered
example : forwards 660 { chans := [(2, ⟨1, []⟩)] }
      [.req 0 ⟨2, [1]⟩, .req 0 ⟨2, [2]⟩, .drain 2 1, .advance 5, .advance 60, .tick 420, .advance 661, .tick 840] = [⟨2, [1]⟩] ∧
    (runOps 660 { chans := [(2, ⟨1, []⟩)] }
      [.req 0 ⟨2, [1]⟩, .req 0 ⟨2, [2]⟩, .drain 2 1, .advance 5, .advance 60, .tick 420, .advance 661, .tick 840]).chans
      = [(2, ⟨1, []⟩)] := by decide +kernel

/-- The suppression window in the source is "about eleven minutes" (strictly between ten and twelve), and the purge
ticker has a positive period (`time.NewTicker` panics otherwise). -/
theorem c17_window_about_eleven_minutes :
    10 * 60 * 1000000000 < Whv.Gen.C17.windowNs ∧ Whv.Gen.C17.windowNs < 12 * 60 * 1000000000 ∧
    0 < Whv.Gen.C17.tickNs := by
  decide +kernel

/-- "…and again once the window has lapsed": the purge runs at least every seven minutes, so with a ticker that
keeps firing a lapsed entry is gone — and the transaction can be forwarded again (`c17_again_after_window`) — at most
eighteen minutes after the forward. -/
theorem c17_reforward_latency :
    Whv.Gen.C17.tickNs ≤ 7 * 60 * 1000000000 ∧ Whv.Gen.C17.windowNs + Whv.Gen.C17.tickNs ≤ 18 * 60 * 1000000000 := by
  decide +kernel

end Whv.C17
