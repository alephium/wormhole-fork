import Whv.Lemmas.ProcC01
import Whv.Lemmas.Confluence
import Whv.Lemmas.Frame
/-!
# C02 — a VAA is published exactly when the node saw the message and quorum signed

Model: `Whv.Proc` (`Whv/Model/Processor.lean`). "Publish" = the step emits `Out.vaa b` (broadcast) and writes `b` to the
store. "Observed" = a `message` / `injection` event produced a signed observation (created `ourVAA`). The gate of an
observation is the entry's snapshot set if it has one, else the current set (`gateSet`) — the code's rule, and the only
reading under which "valid observation" is well defined across guardian-set updates.
-/
namespace Whv.C02
open Whv Whv.Proc

/-- An observation passes the gate: its signature recovers to the address it claims, and that address is a member of
the applicable guardian set. -/
def Accepted (O : Oracle) (s : PState) (o : Obs) : Prop :=
  ∃ g, O.recover o.hash o.sig = some (bytesToAddress o.addr) ∧ gateSet s o.hash = some g ∧
    g.keys.contains (bytesToAddress o.addr) = true

/-- **Soundness.** If a step publishes, it is the handling of an observation for a digest the node has itself observed
(the entry holds `ourVAA`), the published body is exactly that observation's body, the entry was not yet submitted, and
at least `quorum` members of the snapshot set have signed — in particular never for a message the node has not observed
and never below quorum. -/
theorem publish_sound (O : Oracle) (cfg : Config) (s : PState) (e : Event) (s' : PState) (outs : List Out) (b : Bytes)
    (hr : step O cfg s e = .ok s' outs) (hb : Out.vaa b ∈ outs) :
    ∃ o now g st1 v0, e = .observation o now ∧ gateSet s o.hash = some g ∧
      st1 = recordSig (entryOrFresh s o.hash now) (bytesToAddress o.addr) o.sig ∧
      st1.ourVAA = some v0 ∧ st1.submitted = false ∧
      quorum g.keys.length ≤ (assemble g.keys st1.signatures).length ∧
      b = marshal { v0 with sigs := assemble g.keys st1.signatures } ∧
      outs = [Out.vaa b] := by
  cases e with
  | observation o now =>
    rcases handleObservation_cases O s o now with ⟨_, e⟩ | ⟨g, hg, _, _, e⟩ <;> rw [step, e] at hr
    · cases hr; cases hb  -- rejected at the gate: no output
    · rcases obsFinish_cases o.hash g (recordSig (entryOrFresh s o.hash now) (bytesToAddress o.addr) o.sig) with
        ⟨_, e⟩ | ⟨_, e⟩ | ⟨v, hv, hq, hsub, e⟩ <;> cases (e s).symm.trans hr  -- a panic is not `.ok`
      · cases hb  -- recorded: no output
      · -- published
        cases List.mem_singleton.1 hb
        exact ⟨o, now, g, _, v, rfl, hg, rfl, hv, hsub, hq, rfl, rfl⟩
  | _ => exact absurd hb (step_no_vaa_of_not_observation hr nofun b)

/-- **Completeness ("as soon as").** When an accepted observation is delivered for a digest the node has observed and
not yet published, and with it at least `quorum` members of the snapshot set have signed, this very step publishes:
exactly one broadcast of the assembled VAA, the same bytes go to the store, and the entry is marked submitted. With
the node's own key in the set and a correct signer, the loopback of its own observation is such a delivery — so
publication happens no later than the delivery of the last of the quorum's observations, own included. -/
theorem publish_complete (O : Oracle) (hO : OracleOk O) (cfg : Config) (s : PState) (o : Obs) (now : Int)
    (hacc : Accepted O s o) (st1 : VState)
    (hst1 : st1 = recordSig (entryOrFresh s o.hash now) (bytesToAddress o.addr) o.sig) :
    ∀ g v0, gateSet s o.hash = some g → st1.ourVAA = some v0 → st1.submitted = false →
      (∀ p ∈ (entryOrFresh s o.hash now).signatures, p.2.length = 65) →
      quorum g.keys.length ≤ (assemble g.keys st1.signatures).length →
      ∃ s', step O cfg s (.observation o now) =
          .ok s' [Out.vaa (marshal { v0 with sigs := assemble g.keys st1.signatures })] ∧
        s'.db = alInsert v0.body.id (marshal { v0 with sigs := assemble g.keys st1.signatures }) s.db ∧
        s'.agg = alInsert o.hash { st1 with submitted := true } s.agg := by
  intro g v0 hg hv0 hsub hlen hq
  obtain ⟨g', hrec, hg', hmem⟩ := hacc
  cases hg.symm.trans hg'
  have hbad : badSigLen g.keys st1.signatures = false := by
    rw [hst1]
    exact badSigLen_false (forall_mem_alInsert (hO.recover_len _ _ _ hrec) hlen)
  rw [step, handleObservation_eq O hg now, if_pos (by simp only [isAcc, hrec, hmem, decide_true, Bool.and_self]), ← hst1]
  rcases obsFinish_cases o.hash g st1 with ⟨hb, _⟩ | ⟨hn, _⟩ | ⟨v, hv, _, _, e⟩
  · rw [hbad] at hb; cases hb
  · exact absurd ⟨hq, hsub⟩ (hn v0 hv0)
  · cases hv0.symm.trans hv
    exact ⟨_, e s, rfl, rfl⟩

/-- **At most once per aggregation lifetime.** Once an entry is marked submitted, no observation publishes again … -/
theorem submitted_never_republished (O : Oracle) (cfg : Config) (s : PState) (o : Obs) (now : Int) (st : VState)
    (hl : s.agg.lookup o.hash = some st) (hsub : st.submitted = true) (s' : PState) (outs : List Out)
    (hr : step O cfg s (.observation o now) = .ok s' outs) : ∀ b, Out.vaa b ∉ outs := by
  intro b hb
  obtain ⟨o', now', _, _, _, he, _, rfl, _, hns, _⟩ := publish_sound O cfg s _ s' outs b hr hb
  cases he
  rw [recordSig, entryOrFresh, hl] at hns
  cases hsub.symm.trans hns

/-- … and re-observing the message (or injecting again) never resets the flag: `broadcastSignature` keeps `submitted`,
the recorded signatures and the first-seen time. -/
theorem reobserve_keeps_submitted (cfg : Config) (s : PState) (d : Bytes) (v : Vaa) (sig tx : Bytes) (now : Int) (st : VState)
    (hl : s.agg.lookup d = some st) :
    ∃ st', (broadcastSignature cfg s d v sig tx now).1.agg = alInsert d st' s.agg ∧
      st'.submitted = st.submitted ∧ st'.signatures = st.signatures ∧ st'.firstObserved = st.firstObserved ∧
      st'.retryCount = st.retryCount := by
  unfold broadcastSignature entryOrFresh
  rw [hl]
  exact ⟨_, rfl, rfl, rfl, rfl, rfl⟩

/-- **Invalid traffic is a no-op.** An observation that is not `Accepted` — signature does not recover, recovers to
another address than claimed, no guardian set is known, or the signer is not a member of the applicable set — leaves
the whole node state unchanged and emits nothing (shared with C03). -/
theorem invalid_observation_noop (O : Oracle) (cfg : Config) (s : PState) (o : Obs) (now : Int)
    (h : ¬ Accepted O s o) : step O cfg s (.observation o now) = .ok s [] := by
  rcases handleObservation_cases O s o now with ⟨_, e⟩ | ⟨g, hg, hrec, hmem, _⟩
  · exact e
  · exact absurd ⟨g, hrec, hg, List.contains_iff_mem.2 hmem⟩ h

/-- **The governance emitter is never signed from chain**: a chain message naming the governance emitter changes
nothing and emits nothing — no observation, no signature, no aggregation entry. -/
theorem governance_message_never_signed (O : Oracle) (cfg : Config) (s : PState) (m : Msg) (now : Int)
    (h : m.emitter = cfg.govEmitter ∧ m.emitterChain = cfg.govChain) :
    step O cfg s (.message m now) = .ok s [] := by
  unfold step handleMessage
  cases s.gs with
  | none => rfl
  | some g =>
    simp only
    rw [if_pos (by simpa [vaaOfMsg] using h)]

/-- A chain message (or an injection) that arrives before the first guardian-set update is dropped: never signed, so it
never counts as observed. -/
theorem before_first_set_dropped (O : Oracle) (cfg : Config) (s : PState) (hgs : s.gs = none) (m : Msg) (v : Vaa) (now : Int) :
    step O cfg s (.message m now) = .ok s [] ∧ step O cfg s (.injection v now) = .ok s [] := by
  constructor
  · unfold step handleMessage; simp only [hgs]
  · unfold step handleInjection; simp only [hgs]

/-- A message whose quorum VAA is already stored with a timestamp more than the settlement time older is dropped. -/
theorem settled_message_dropped (O : Oracle) (cfg : Config) (s : PState) (g : GSet) (hgs : s.gs = some g) (m : Msg) (now : Int)
    (hng : ¬ (m.emitter = cfg.govEmitter ∧ m.emitterChain = cfg.govChain)) (vb : Bytes) (ex : Vaa)
    (hdb : s.db.lookup (vaaOfMsg g.index m).body.id = some vb) (hun : unmarshal vb = some ex)
    (hlate : (m.tsSec * 1000000000 + m.tsNsec) - (ex.body.ts : Int) * 1000000000 > settlementTime) :
    step O cfg s (.message m now) = .ok s [] := by
  unfold step handleMessage
  simp only [hgs]
  rw [if_neg (by simpa [vaaOfMsg] using hng)]
  simp only [hdb, hun]
  rw [if_pos hlate]

/-- **What a local observation does**: it signs the digest of exactly the VAA built from the message, broadcasts that
observation, loops it back, and files the VAA as the node's own under that digest with the current set as snapshot. -/
theorem local_observation (O : Oracle) (cfg : Config) (s : PState) (g : GSet) (hgs : s.gs = some g) (m : Msg) (now : Int)
    (hng : ¬ (m.emitter = cfg.govEmitter ∧ m.emitterChain = cfg.govChain))
    (hdb : s.db.lookup (vaaOfMsg g.index m).body.id = none) (sig : Bytes)
    (hsig : O.sign (O.digestOf (vaaOfMsg g.index m).body) = some sig) :
    let v := vaaOfMsg g.index m
    let d := O.digestOf v.body
    let ob : Obs := { addr := cfg.ourAddr, hash := d, sig := sig, txHash := m.txHash }
    ∃ s', step O cfg s (.message m now) = .ok s' [Out.obs ob, Out.loopback ob] ∧ s'.db = s.db ∧ s'.gs = s.gs ∧
      ∃ st, s'.agg.lookup d = some st ∧ st.ourVAA = some v ∧ st.gs = some g ∧ st.ourMsg = some ob := by
  intro v d ob
  rcases signBroadcast_cases O cfg s v m.txHash now with ⟨hn, _⟩ | ⟨sig', hs, e⟩
  · cases hn.symm.trans hsig
  · cases hs.symm.trans hsig
    exact ⟨_, (handleMessage_fresh O cfg hgs m now hng hdb).trans e, rfl, rfl, _, lookup_alInsert_self _ _ _, rfl, hgs, rfl⟩

/-! ## Order independence (`c02_confluence`)

One chain message `m`, one guardian set `g`, and any list of deliveries made of `message m _` events and observations
for the digest of `m` — valid ones by members, forged ones, duplicates, by non-members, the node's own loopback — in any
order. Whether and when the node publishes is characterised by the list alone, and, once the own loopback is known to come
after the message (causality), by the *set* of events alone. Proofs: `Whv/Lemmas/Confluence.lean`.

`WindowEvents`, `AcceptedObs`, `CompletesQuorum`, `LoopbackAfterMessage` below say in terms of the events alone what the proofs
track as `Proc.WinEvent`, `Proc.isAcc`, `Proc.Trigger`, `Proc.AfterMsg` (through `hasMsg`, `accAddr`); the private lemmas before
`window_pre_run` translate. -/

/-- The digest under which the chain message `m` is aggregated while `g` is the current set. -/
def digestOfMsg (O : Oracle) (g : GSet) (m : Msg) : Bytes := O.digestOf (vaaOfMsg g.index m).body

/-- The setting: a well-behaved crypto oracle, a guardian set with distinct keys which is the node's current set, a chain
message not from the governance emitter, and a start state that has neither an aggregation entry for its digest nor a
stored VAA for its id. -/
structure Window (O : Oracle) (cfg : Config) (g : GSet) (m : Msg) (s0 : PState) : Prop where
  oracle : OracleOk O
  gset : GSetOk g
  notGov : ¬ (m.emitter = cfg.govEmitter ∧ m.emitterChain = cfg.govChain)
  cur : s0.gs = some g
  noEntry : s0.agg.lookup (digestOfMsg O g m) = none
  noStore : s0.db.lookup (vaaOfMsg g.index m).body.id = none

/-- The deliveries considered: the message `m` itself (at any time), and arbitrary observations for its digest. -/
def WindowEvents (O : Oracle) (g : GSet) (m : Msg) (es : List Event) : Prop :=
  ∀ e ∈ es, (∃ now, e = .message m now) ∨ (∃ o now, e = .observation o now ∧ o.hash = digestOfMsg O g m)

/-- A valid observation by a member of `g` (inside a window this is `Accepted` at every state, see `Proc.pre_gate`). -/
def AcceptedObs (O : Oracle) (g : GSet) (m : Msg) (o : Obs) : Prop :=
  O.recover (digestOfMsg O g m) o.sig = some (bytesToAddress o.addr) ∧ bytesToAddress o.addr ∈ g.keys

/-- The distinct members of `g` from which `es` contains a valid observation (in guardian-set order). -/
def acceptedSigners (O : Oracle) (g : GSet) (m : Msg) (es : List Event) : List Addr :=
  Proc.acceptedSigners O g (digestOfMsg O g m) es

/-- The run over `es` broadcasts the signed VAA `b` at some step. -/
def PublishedBytes (O : Oracle) (cfg : Config) (s0 : PState) (es : List Event) (b : Bytes) : Prop :=
  ∃ sf outs, run O cfg s0 es = .ok (sf, outs) ∧ ∃ os ∈ outs, Out.vaa b ∈ os

def Published (O : Oracle) (cfg : Config) (s0 : PState) (es : List Event) : Prop := ∃ b, PublishedBytes O cfg s0 es b

/-- Delivered after the events `pre`, `e` completes the quorum: it is a valid observation by a member, the message has
been seen before it, and with it at least `quorum` distinct members have signed. -/
def CompletesQuorum (O : Oracle) (g : GSet) (m : Msg) (pre : List Event) (e : Event) : Prop :=
  ∃ o now, e = .observation o now ∧ AcceptedObs O g m o ∧ (∃ now', Event.message m now' ∈ pre) ∧
    quorum g.keys.length ≤ (acceptedSigners O g m (pre ++ [e])).length

/-- Position `k` of `es` completes the quorum. -/
def CompletesAt (O : Oracle) (g : GSet) (m : Msg) (es : List Event) (k : Nat) : Prop :=
  ∃ e, es[k]? = some e ∧ CompletesQuorum O g m (es.take k) e

/-- Causality: a valid observation by a member — the node's own loopback, when its key is in the set — is delivered
after a `message` event (the loopback is *caused* by the message event). -/
def LoopbackAfterMessage (O : Oracle) (g : GSet) (m : Msg) (es : List Event) : Prop :=
  ∃ es1 o now es2, es = es1 ++ Event.observation o now :: es2 ∧ AcceptedObs O g m o ∧ ∃ now', Event.message m now' ∈ es1

/-- `acceptedSigners` is what its name says. -/
theorem mem_acceptedSigners (O : Oracle) (g : GSet) (m : Msg) (es : List Event) (a : Addr) :
    a ∈ acceptedSigners O g m es ↔
      a ∈ g.keys ∧ ∃ o now, Event.observation o now ∈ es ∧ O.recover (digestOfMsg O g m) o.sig = some a ∧
        bytesToAddress o.addr = a := by
  unfold acceptedSigners Proc.acceptedSigners
  rw [List.mem_filter, List.contains_iff_mem, mem_accAddrs]
  constructor
  · rintro ⟨hk, o, now, he, hacc, rfl⟩
    exact ⟨hk, o, now, he, ((isAcc_iff _ _ _ _).1 hacc).1, rfl⟩
  · rintro ⟨hk, o, now, he, hrec, rfl⟩
    exact ⟨hk, o, now, he, (isAcc_iff _ _ _ _).2 ⟨hrec, hk⟩, rfl⟩

theorem acceptedSigners_nodup (O : Oracle) {g : GSet} (hg : GSetOk g) (m : Msg) (es : List Event) :
    (acceptedSigners O g m es).Nodup :=
  Proc.acceptedSigners_nodup hg _ es

/-- The own loopback is such an observation when the node's key is a member and its signer is correct. -/
theorem own_loopback_accepted (O : Oracle) (cfg : Config) (g : GSet) (m : Msg) (sig tx : Bytes)
    (hrec : O.recover (digestOfMsg O g m) sig = some (bytesToAddress cfg.ourAddr))
    (hmem : bytesToAddress cfg.ourAddr ∈ g.keys) :
    AcceptedObs O g m { addr := cfg.ourAddr, hash := digestOfMsg O g m, sig := sig, txHash := tx } :=
  ⟨hrec, hmem⟩

private theorem msg_mem_iff {O : Oracle} {g : GSet} {m : Msg} {pre : List Event}
    (hpre : WindowEvents O g m pre) :
    hasMsg pre = true ↔ ∃ now', Event.message m now' ∈ pre := by
  rw [hasMsg_iff]
  constructor
  · rintro ⟨x, hx, hm⟩
    rcases hpre x hx with ⟨now, rfl⟩ | ⟨o, now, rfl, _⟩
    · exact ⟨now, hx⟩
    · cases hm
  · rintro ⟨now, h⟩; exact ⟨_, h, rfl⟩

private theorem accAddr_isSome_iff {O : Oracle} {g : GSet} {m : Msg} {o : Obs} {now : Int} :
    (accAddr O g (digestOfMsg O g m) (.observation o now)).isSome = true ↔ AcceptedObs O g m o := by
  unfold AcceptedObs
  rw [← isAcc_iff]
  by_cases h : isAcc O g (digestOfMsg O g m) o = true <;> simp [accAddr, h]

private theorem completes_iff_trigger {O : Oracle} {g : GSet} {m : Msg} {pre : List Event} {e : Event}
    (hpre : WindowEvents O g m pre) :
    CompletesQuorum O g m pre e ↔ Trigger O g (digestOfMsg O g m) pre e := by
  constructor
  · rintro ⟨o, now, rfl, hacc, hm, hq⟩
    exact ⟨accAddr_isSome_iff.2 hacc, (msg_mem_iff hpre).2 hm, hq⟩
  · rintro ⟨h1, h2, h3⟩
    cases e with
    | observation o now => exact ⟨o, now, rfl, accAddr_isSome_iff.1 h1, (msg_mem_iff hpre).1 h2, h3⟩
    | _ => cases h1

private theorem loopback_afterMsg {O : Oracle} {g : GSet} {m : Msg} {es : List Event}
    (h : LoopbackAfterMessage O g m es) : AfterMsg O g (digestOfMsg O g m) es := by
  obtain ⟨es1, o, now, es2, rfl, hacc, now', hm⟩ := h
  exact ⟨es1, _, es2, rfl, hasMsg_iff.2 ⟨_, hm, rfl⟩, accAddr_isSome_iff.2 hacc⟩

private theorem window_pre_run {O : Oracle} {cfg : Config} {g : GSet} {m : Msg} {s0 : PState}
    (hW : Window O cfg g m s0) {es : List Event} (hev : WindowEvents O g m es) :
    ∃ sf outs, run O cfg s0 es = .ok (sf, outs) ∧ Pre O g m (digestOfMsg O g m) es sf ∧
      ((¬ Fired O g (digestOfMsg O g m) es ∧ vaaCount outs = 0) ∨ (Fired O g (digestOfMsg O g m) es ∧ vaaCount outs = 1)) :=
  pre_run hW.oracle cfg hW.gset rfl hW.notGov (pre_init hW.cur hW.noEntry hW.noStore) es hev

/-- Inside a window the run never panics. -/
theorem window_runs {O : Oracle} {cfg : Config} {g : GSet} {m : Msg} {s0 : PState}
    (hW : Window O cfg g m s0) {es : List Event} (hev : WindowEvents O g m es) :
    ∃ sf outs, run O cfg s0 es = .ok (sf, outs) :=
  let ⟨sf, outs, hr, _⟩ := window_pre_run hW hev
  ⟨sf, outs, hr⟩

private theorem published_iff_vaaCount_pos {O : Oracle} {cfg : Config} {s0 sf : PState} {es : List Event} {outs : List (List Out)}
    (hr : run O cfg s0 es = .ok (sf, outs)) : Published O cfg s0 es ↔ 0 < vaaCount outs := by
  rw [vaaCount_pos_iff]
  constructor
  · rintro ⟨b, sf', outs', hr', os, hos, hb⟩
    cases hr.symm.trans hr'
    exact ⟨os, hos, b, hb⟩
  · rintro ⟨os, hos, b, hb⟩
    exact ⟨b, sf, outs, hr, os, hos, hb⟩

private theorem published_iff_fired {O : Oracle} {cfg : Config} {g : GSet} {m : Msg} {s0 : PState}
    (hW : Window O cfg g m s0) {es : List Event} (hev : WindowEvents O g m es) :
    Published O cfg s0 es ↔ Fired O g (digestOfMsg O g m) es := by
  obtain ⟨sf, outs, hr, _, hc⟩ := window_pre_run hW hev
  rw [published_iff_vaaCount_pos hr]
  rcases hc with ⟨hnf, h0⟩ | ⟨hf, h1⟩
  · exact iff_of_false (by rw [h0]; exact Nat.lt_irrefl 0) hnf
  · exact iff_of_true (by rw [h1]; exact Nat.one_pos) hf

/-- **Characterisation.** The node publishes iff some position of the list completes the quorum: a valid observation by
a member, delivered after a `message` event, with which at least `quorum` distinct members have signed. -/
theorem published_iff_completes {O : Oracle} {cfg : Config} {g : GSet} {m : Msg} {s0 : PState}
    (hW : Window O cfg g m s0) {es : List Event} (hev : WindowEvents O g m es) :
    Published O cfg s0 es ↔ ∃ k, CompletesAt O g m es k := by
  rw [published_iff_fired hW hev]
  unfold CompletesAt Fired
  rw [List.exists_getElem?_iff_split (CompletesQuorum O g m) es]
  refine exists_congr fun es1 => exists_congr fun e => exists_congr fun es2 => and_congr_right fun he => ?_
  subst he
  exact (completes_iff_trigger fun x hx => hev x (by simp [hx])).symm

/-- **Equivalently**: the final entry for the digest is marked submitted. -/
theorem published_iff_submitted {O : Oracle} {cfg : Config} {g : GSet} {m : Msg} {s0 : PState}
    (hW : Window O cfg g m s0) {es : List Event} (hev : WindowEvents O g m es) (sf : PState) (outs : List (List Out))
    (hr : run O cfg s0 es = .ok (sf, outs)) :
    Published O cfg s0 es ↔ ∃ st, sf.agg.lookup (digestOfMsg O g m) = some st ∧ st.submitted = true := by
  obtain ⟨sf', outs', hr', hpre, _⟩ := window_pre_run hW hev
  cases hr.symm.trans hr'
  rw [published_iff_fired hW hev, ← hpre.sub 0]
  unfold entryOrFresh
  cases sf.agg.lookup (digestOfMsg O g m) with
  | none => exact ⟨nofun, fun ⟨_, h, _⟩ => nomatch h⟩
  | some st => exact ⟨fun h => ⟨st, rfl, h⟩, fun ⟨_, h, hs⟩ => by cases h; exact hs⟩

/-- **At most once.** The whole run broadcasts at most one signed VAA — exactly one iff it publishes. -/
theorem published_at_most_once {O : Oracle} {cfg : Config} {g : GSet} {m : Msg} {s0 : PState}
    (hW : Window O cfg g m s0) {es : List Event} (hev : WindowEvents O g m es) (sf : PState) (outs : List (List Out))
    (hr : run O cfg s0 es = .ok (sf, outs)) :
    vaaCount outs ≤ 1 ∧ (Published O cfg s0 es ↔ vaaCount outs = 1) := by
  obtain ⟨sf', outs', hr', _, hc⟩ := window_pre_run hW hev
  cases hr.symm.trans hr'
  rw [published_iff_vaaCount_pos hr]
  rcases hc with ⟨_, h⟩ | ⟨_, h⟩ <;> rw [h] <;> decide

/-- **What is published, and when.** A step that broadcasts a signed VAA broadcasts nothing else; it is the *first*
position `k` that completes the quorum; and the bytes are the marshalled VAA built from the observed message `m` (so its
body is exactly the node's own observation) carrying the signatures recorded at that moment, assembled in guardian-set
order — a `C06.Valid` list for `g.keys`, one signature per distinct accepted signer among `es[0..k]`, at least `quorum`. -/
theorem published_shape {O : Oracle} {cfg : Config} {g : GSet} {m : Msg} {s0 : PState}
    (hW : Window O cfg g m s0) {es : List Event} (hev : WindowEvents O g m es) (sf : PState) (outs : List (List Out))
    (hr : run O cfg s0 es = .ok (sf, outs)) (os : List Out) (hos : os ∈ outs) (b : Bytes) (hb : Out.vaa b ∈ os) :
    os = [Out.vaa b] ∧
    ∃ k o now s1 outs1, es[k]? = some (.observation o now) ∧ CompletesAt O g m es k ∧ (∀ j < k, ¬ CompletesAt O g m es j) ∧
      run O cfg s0 (es.take k) = .ok (s1, outs1) ∧
      ∃ sigs, sigs = assemble g.keys
            (recordSig (entryOrFresh s1 (digestOfMsg O g m) now) (bytesToAddress o.addr) o.sig).signatures ∧
        b = marshal { vaaOfMsg g.index m with sigs := sigs } ∧
        C06.Valid (O.recover (digestOfMsg O g m)) sigs g.keys ∧
        sigs.length = (acceptedSigners O g m (es.take (k + 1))).length ∧
        quorum g.keys.length ≤ sigs.length := by
  -- the step that emitted `os` handled `es[k]` in the state the window events `es.take k` lead to
  obtain ⟨k, hk⟩ := List.getElem?_of_mem hos
  obtain ⟨e, s1, outs1, s2, hek, hr1, hst⟩ := run_getElem? hr hk
  have hev1 : WindowEvents O g m (es.take k) := fun x hx => hev x (List.mem_of_mem_take hx)
  obtain ⟨s1', outs1', hr1', hpre, _⟩ := window_pre_run hW hev1
  cases hr1.symm.trans hr1'
  obtain ⟨s2', os', hst', _, h | ⟨o, now, rfl, hpub⟩⟩ :=
    pre_step hW.oracle cfg hW.gset rfl hW.notGov hpre (hev e (List.mem_of_getElem? hek))
  · cases hst.symm.trans hst'
    exact absurd hb (h.2 b)
  · cases hst.symm.trans hst'
    rw [hpub.outs_eq] at hb ⊢
    cases List.mem_singleton.1 hb
    refine ⟨rfl, k, o, now, s1, outs1, hek, ⟨_, hek, (completes_iff_trigger hev1).2 hpub.trigger⟩, ?_, hr1,
      _, rfl, rfl, hpub.valid, ?_, ?_⟩
    · rintro j hj ⟨e', hje, hc⟩
      refine hpub.first ((List.exists_getElem?_iff_split _ _).1 ⟨j, e', by rw [List.getElem?_take_of_lt hj]; exact hje, ?_⟩)
      rw [List.take_take, Nat.min_eq_left (Nat.le_of_lt hj)]
      exact (completes_iff_trigger fun x hx => hev x (List.mem_of_mem_take hx)).1 hc
    · rw [List.take_add_one, hek]
      exact hpub.length
    · exact Nat.le_trans hpub.trigger.2.2 (Nat.le_of_eq hpub.length.symm)

/-- What `published_shape` says of the bytes alone. -/
private theorem publishedBytes_valid {O : Oracle} {cfg : Config} {g : GSet} {m : Msg} {s0 : PState}
    (hW : Window O cfg g m s0) {es : List Event} (hev : WindowEvents O g m es) {b : Bytes} (h : PublishedBytes O cfg s0 es b) :
    ∃ sigs, b = marshal { vaaOfMsg g.index m with sigs := sigs } ∧ C06.Valid (O.recover (digestOfMsg O g m)) sigs g.keys ∧
      quorum g.keys.length ≤ sigs.length := by
  obtain ⟨sf, outs, hr, os, hos, hb⟩ := h
  obtain ⟨_, k, o, now, s1, outs1, _, _, _, _, sigs, _, hbytes, hval, _, hq⟩ := published_shape hW hev sf outs hr os hos b hb
  exact ⟨sigs, hbytes, hval, hq⟩

/-- **Never without the message, never below quorum** (no causality hypothesis needed). -/
theorem published_needs_message_and_quorum {O : Oracle} {cfg : Config} {g : GSet} {m : Msg} {s0 : PState}
    (hW : Window O cfg g m s0) {es : List Event} (hev : WindowEvents O g m es) (h : Published O cfg s0 es) :
    (∃ now, Event.message m now ∈ es) ∧ quorum g.keys.length ≤ (acceptedSigners O g m es).length := by
  obtain ⟨es1, e, es2, rfl, ht⟩ := (published_iff_fired hW hev).1 h
  obtain ⟨h1, h2⟩ := trigger_quorum (es2 := es2) ht
  exact ⟨(msg_mem_iff hev).1 h1, h2⟩

/-- **Publication depends only on the set of events.** When a valid observation by a member (the own loopback) comes
after the message, the node publishes iff the list contains the message and valid observations of at least `quorum`
distinct members — a condition that mentions neither order nor multiplicity nor rejected traffic. -/
theorem published_iff_quorum {O : Oracle} {cfg : Config} {g : GSet} {m : Msg} {s0 : PState}
    (hW : Window O cfg g m s0) {es : List Event} (hev : WindowEvents O g m es) (hlb : LoopbackAfterMessage O g m es) :
    Published O cfg s0 es ↔
      (∃ now, Event.message m now ∈ es) ∧ quorum g.keys.length ≤ (acceptedSigners O g m es).length :=
  ⟨published_needs_message_and_quorum hW hev,
    fun ⟨_, hq⟩ => (published_iff_fired hW hev).2 (quorum_trigger (loopback_afterMsg hlb) hq)⟩

/-- The accepted signers do not depend on the order of the deliveries … -/
theorem acceptedSigners_perm (O : Oracle) (g : GSet) (m : Msg) {es es' : List Event} (h : es.Perm es') :
    acceptedSigners O g m es = acceptedSigners O g m es' :=
  Proc.acceptedSigners_perm h

/-- … a rejected observation (forged, mis-addressed, by a non-member) contributes nothing … -/
theorem rejected_contributes_nothing (O : Oracle) (g : GSet) (m : Msg) (es1 es2 : List Event) (o : Obs) (now : Int)
    (h : ¬ AcceptedObs O g m o) :
    acceptedSigners O g m (es1 ++ Event.observation o now :: es2) = acceptedSigners O g m (es1 ++ es2) := by
  apply Proc.acceptedSigners_congr
  intro a
  rw [mem_accAddrs_insert, or_iff_left]
  intro hx
  exact h (accAddr_isSome_iff.1 (by rw [hx]; rfl))

/-- … neither does a `message` event … -/
theorem message_contributes_nothing (O : Oracle) (g : GSet) (m : Msg) (es1 es2 : List Event) (m' : Msg) (now : Int) :
    acceptedSigners O g m (es1 ++ Event.message m' now :: es2) = acceptedSigners O g m (es1 ++ es2) := by
  apply Proc.acceptedSigners_congr
  intro a
  rw [mem_accAddrs_insert, or_iff_left nofun]

/-- … and a duplicate — the same event again, or any further observation of a member already counted — changes nothing. -/
theorem duplicate_contributes_nothing (O : Oracle) (g : GSet) (m : Msg) (es1 es2 : List Event) (o : Obs) (now : Int)
    (h : bytesToAddress o.addr ∈ acceptedSigners O g m (es1 ++ es2)) :
    acceptedSigners O g m (es1 ++ Event.observation o now :: es2) = acceptedSigners O g m (es1 ++ es2) := by
  apply Proc.acceptedSigners_congr
  intro a
  rw [mem_accAddrs_insert, or_iff_left_of_imp]
  intro hx
  -- an accepted observation contributes the address it claims, which is counted already
  rw [← (accAddr_observation.1 hx).2]
  exact List.contains_iff_mem.1 (List.mem_filter.1 h).2

/-- The accepted signers depend only on *which* events occur, not on how often or in which order. -/
theorem acceptedSigners_same_events (O : Oracle) (g : GSet) (m : Msg) {es es' : List Event}
    (h : ∀ e, e ∈ es ↔ e ∈ es') : acceptedSigners O g m es = acceptedSigners O g m es' := by
  apply Proc.acceptedSigners_congr
  intro a
  rw [mem_accAddrs, mem_accAddrs]
  exact exists_congr fun _ => exists_congr fun _ => and_congr_left' (h _)

/-- **Order and multiplicity independence.** Two causally valid delivery lists with the same *set* of events (any order,
any duplication): the node publishes in one iff it publishes in the other, and what it publishes is in both cases the VAA
of the observed message `m` (same version, guardian-set index and body) with a `C06.Valid` signature list of at least
`quorum` signatures of members of `g`. (The signature subsets themselves may differ: an order that completes the quorum
early publishes fewer signatures.) -/
theorem c02_confluence_same_events {O : Oracle} {cfg : Config} {g : GSet} {m : Msg} {s0 : PState}
    (hW : Window O cfg g m s0) {es es' : List Event} (hev : WindowEvents O g m es) (hsame : ∀ e, e ∈ es ↔ e ∈ es')
    (hlb : LoopbackAfterMessage O g m es) (hlb' : LoopbackAfterMessage O g m es') :
    (Published O cfg s0 es ↔ Published O cfg s0 es') ∧
    ∀ b b', PublishedBytes O cfg s0 es b → PublishedBytes O cfg s0 es' b' →
      ∃ sigs sigs', b = marshal { vaaOfMsg g.index m with sigs := sigs } ∧
        b' = marshal { vaaOfMsg g.index m with sigs := sigs' } ∧
        C06.Valid (O.recover (digestOfMsg O g m)) sigs g.keys ∧ C06.Valid (O.recover (digestOfMsg O g m)) sigs' g.keys ∧
        quorum g.keys.length ≤ sigs.length ∧ quorum g.keys.length ≤ sigs'.length := by
  have hev' : WindowEvents O g m es' := fun e he => hev e ((hsame e).2 he)
  constructor
  · rw [published_iff_quorum hW hev hlb, published_iff_quorum hW hev' hlb', acceptedSigners_same_events O g m hsame]
    exact and_congr_left' (exists_congr fun _ => hsame _)
  · intro b b' hb hb'
    obtain ⟨sigs, h1, h2, h3⟩ := publishedBytes_valid hW hev hb
    obtain ⟨sigs', h1', h2', h3'⟩ := publishedBytes_valid hW hev' hb'
    exact ⟨sigs, sigs', h1, h1', h2, h2', h3, h3'⟩

/-- **Order independence** (`c02_confluence`): the same for two causally valid permutations of one multiset of deliveries. -/
theorem c02_confluence {O : Oracle} {cfg : Config} {g : GSet} {m : Msg} {s0 : PState}
    (hW : Window O cfg g m s0) {es es' : List Event} (hev : WindowEvents O g m es) (hperm : es.Perm es')
    (hlb : LoopbackAfterMessage O g m es) (hlb' : LoopbackAfterMessage O g m es') :
    (Published O cfg s0 es ↔ Published O cfg s0 es') ∧
    ∀ b b', PublishedBytes O cfg s0 es b → PublishedBytes O cfg s0 es' b' →
      ∃ sigs sigs', b = marshal { vaaOfMsg g.index m with sigs := sigs } ∧
        b' = marshal { vaaOfMsg g.index m with sigs := sigs' } ∧
        C06.Valid (O.recover (digestOfMsg O g m)) sigs g.keys ∧ C06.Valid (O.recover (digestOfMsg O g m)) sigs' g.keys ∧
        quorum g.keys.length ≤ sigs.length ∧ quorum g.keys.length ≤ sigs'.length :=
  c02_confluence_same_events hW hev (fun _ => hperm.mem_iff) hlb hlb'

/-! Non-vacuity: three guardians (quorum 3), a toy oracle; a parked early signature, a non-member, a duplicate, the own
loopback after the message. The hypotheses hold and the node publishes. -/
namespace Example
def O1 : Oracle :=
  { recover := fun _ s => if s.length = 65 then some (s.take 20) else none, digestOf := fun _ => [7],
    sign := fun _ => some (List.replicate 65 1) }
def cfg1 : Config := { ourAddr := List.replicate 20 1, govChain := 1, govEmitter := [9] }
def g1 : GSet := { index := 0, keys := [List.replicate 20 1, List.replicate 20 2, List.replicate 20 3] }
def m1 : Msg :=
  { txHash := [], tsSec := 0, tsNsec := 0, nonce := 0, sequence := 0, consistency := 0, emitterChain := 2,
    targetChain := 0, emitter := [5], payload := [] }
def ob (k : UInt8) : Obs := { addr := List.replicate 20 k, hash := [7], sig := List.replicate 65 k, txHash := [] }
def s1 : PState := { gs := some g1 }
def es1 : List Event :=
  [.observation (ob 2) 0, .message m1 0, .observation (ob 4) 1, .observation (ob 1) 1, .observation (ob 3) 1,
   .observation (ob 3) 2]

private theorem window1 : Window O1 cfg1 g1 m1 s1 :=
  ⟨⟨fun _ => rfl, fun h s a hr => by
      simp only [O1] at hr
      exact Decidable.by_contra fun hl => by rw [if_neg hl] at hr; cases hr⟩,
   ⟨by decide, by decide⟩, by decide, rfl, rfl, rfl⟩

private theorem events1 : WindowEvents O1 g1 m1 es1 := by
  intro e he
  simp only [es1, List.mem_cons, List.not_mem_nil, or_false] at he
  rcases he with rfl | rfl | rfl | rfl | rfl | rfl
  · exact Or.inr ⟨_, _, rfl, rfl⟩
  · exact Or.inl ⟨_, rfl⟩
  · exact Or.inr ⟨_, _, rfl, rfl⟩
  · exact Or.inr ⟨_, _, rfl, rfl⟩
  · exact Or.inr ⟨_, _, rfl, rfl⟩
  · exact Or.inr ⟨_, _, rfl, rfl⟩

private theorem loopback1 : LoopbackAfterMessage O1 g1 m1 es1 :=
  ⟨[.observation (ob 2) 0, .message m1 0, .observation (ob 4) 1], ob 1, 1, _, rfl, ⟨by decide +kernel, by decide +kernel⟩, 0, by simp⟩

example : acceptedSigners O1 g1 m1 es1 = g1.keys := by decide +kernel

example : Published O1 cfg1 s1 es1 :=
  (published_iff_quorum window1 events1 loopback1).2 ⟨⟨0, by simp [es1]⟩, by decide +kernel⟩
end Example

/-! ## Interleaving with traffic about other messages (frame theorem, `Whv/Lemmas/Frame.lean`) -/

/-- What the node broadcast as complete at the steps that handled events about `m`, inside a longer run. -/
def PublishedAtWindowSteps (O : Oracle) (g : GSet) (m : Msg) (es : List Event) (outs : List (List Out)) (b : Bytes) : Prop :=
  ∃ os ∈ pick (digestOfMsg O g m) m es outs, Out.vaa b ∈ os

/-- **Interleaving with other traffic.** Let `es` be *any* event list in which each event is about `m` (the message, observations
for its digest) or about something else (observations for other digests; chain messages, injections, inbound VAAs with another
digest and another message id — valid, forged, duplicated, in any number and order). If the run does not panic, then at the steps
that handle events about `m` the node publishes exactly what it publishes when those events are delivered alone: other traffic can
neither cause, prevent, delay nor alter the publication of `m`'s VAA. Together with `published_iff_quorum`, `published_shape`,
`published_at_most_once` and `c02_confluence` (which speak about the events of `m` alone) this extends them to every such
interleaving. -/
theorem c02_other_traffic {O : Oracle} {cfg : Config} {g : GSet} {m : Msg} {s0 : PState}
    (hsep : Sep (digestOfMsg O g m) (vaaOfMsg g.index m).body.id s0)
    (es : List Event)
    (hall : ∀ e ∈ es, isWin (digestOfMsg O g m) m e = true ∨ Foreign O (digestOfMsg O g m) (vaaOfMsg g.index m).body.id e)
    (sf : PState) (outs : List (List Out)) (hrun : run O cfg s0 es = .ok (sf, outs)) (b : Bytes) :
    PublishedAtWindowSteps O g m es outs b ↔ PublishedBytes O cfg s0 (es.filter (isWin (digestOfMsg O g m) m)) b := by
  -- `hd`, `hk`: the body built from `m`, hence its digest and its id, does not depend on the set index
  obtain ⟨sf', _, hr', _, rfl⟩ :=
    run_frame O cfg (digestOfMsg O g m) (vaaOfMsg g.index m).body.id m (hd := fun _ => rfl) (hk := fun _ => rfl) es s0 s0 hall
      (Same.refl ..) hsep sf outs hrun
  constructor
  · rintro ⟨os, hos, hb⟩
    exact ⟨sf', _, hr', os, hos, hb⟩
  · rintro ⟨sf2, outs2, hr2, os, hos, hb⟩
    cases hr'.symm.trans hr2
    exact ⟨os, hos, hb⟩

/-- … hence: in any interleaving with other traffic, starting in a window state, `m`'s VAA is published (at a step about `m`) iff
the message and valid observations by a quorum of distinct members are among the events — whatever else is delivered in between. -/
theorem c02_published_iff_quorum_any_traffic {O : Oracle} {cfg : Config} {g : GSet} {m : Msg} {s0 : PState}
    (hW : Window O cfg g m s0) (hsep : Sep (digestOfMsg O g m) (vaaOfMsg g.index m).body.id s0) (es : List Event)
    (hall : ∀ e ∈ es, isWin (digestOfMsg O g m) m e = true ∨ Foreign O (digestOfMsg O g m) (vaaOfMsg g.index m).body.id e)
    (hlb : LoopbackAfterMessage O g m (es.filter (isWin (digestOfMsg O g m) m)))
    (sf : PState) (outs : List (List Out)) (hrun : run O cfg s0 es = .ok (sf, outs)) :
    (∃ b, PublishedAtWindowSteps O g m es outs b) ↔
      (∃ now, Event.message m now ∈ es) ∧
        quorum g.keys.length ≤ (acceptedSigners O g m (es.filter (isWin (digestOfMsg O g m) m))).length := by
  have hiff := published_iff_quorum hW (fun e he => (isWin_iff _ m e).1 (List.mem_filter.1 he).2) hlb
  have hmem : (∃ now, Event.message m now ∈ es.filter (isWin (digestOfMsg O g m) m)) ↔ (∃ now, Event.message m now ∈ es) :=
    exists_congr fun _ => List.mem_filter.trans (and_iff_left (by simp [isWin]))
  rw [← hmem, ← hiff]
  exact exists_congr (c02_other_traffic hsep es hall sf outs hrun)

/-- Non-vacuity of `Sep`: the initial state (and any state without other aggregation entries) satisfies it. -/
theorem sep_of_no_entries (d : Bytes) (k : VaaId) (s : PState) (h : s.agg = []) : Sep d k s := by
  intro d' st v _ hl _
  rw [h] at hl
  cases hl

end Whv.C02
