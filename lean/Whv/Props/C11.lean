import Whv.Lemmas.AlphUtil
import Whv.Lemmas.AlphWatch
import Whv.Gen.C11
/-!
# C11 — Alephium event fields map faithfully to the attested message

Model: `Whv/Model/AlphUtil.lean` (`node/pkg/alephium/utils.go` branch by branch, with the repair
`fixes/C11-narrow-uint-bounds.diff`), tied to the real functions by `checks/c11.py` on every run.
Contract-side facts (event declaration, attestation payload layout, handler offsets, Go constants) are
re-extracted into `Whv/Gen/C11.lean` on every run and compared with the model here by `decide`.
-/
namespace Whv.C11
open Whv Whv.AlphUtil

/-! ## converters: exact characterisation -/

/-- `toU256` succeeds exactly on a `U256`-tagged numeral `[+-]?[0-9]+`, with the signed value it spells. -/
theorem toU256_ok_iff {f : Val} {v : Int} :
    toU256 f = .ok v ↔ ∃ t, f.u256 = some t ∧ t.typ = tagU256 ∧ parseInt t.value = some v := by
  unfold toU256
  cases f.u256 with
  | none => simp
  | some t =>
    by_cases ht : t.typ = tagU256
    · cases hp : parseInt t.value <;> simp [ht, hp]
    · simp [ht]

theorem toByteVec_ok_iff {f : Val} {bs : Bytes} :
    toByteVec f = .ok bs ↔ ∃ t, f.byteVec = some t ∧ t.typ = tagByteVec ∧ decodeHex t.value = (bs, none) := by
  unfold toByteVec
  cases f.byteVec with
  | none => simp
  | some t =>
    by_cases ht : t.typ = tagByteVec
    · rcases hd : decodeHex t.value with ⟨r, _ | _ | _⟩ <;> simp [ht, hd]
    · simp [ht]

theorem toByte32_ok_iff {f : Val} {bs : Bytes} : toByte32 f = .ok bs ↔ toByteVec f = .ok bs ∧ bs.length = 32 := by
  unfold toByte32
  cases toByteVec f with
  | error e => simp
  | ok b =>
    by_cases hl : b.length = 32
    · simp only [hl, ne_eq, not_true_eq_false, if_false, Except.ok.injEq]
      exact ⟨fun e => e ▸ ⟨rfl, hl⟩, fun e => e.1⟩
    · simp only [ne_eq, hl, not_false_eq_true, if_true, Except.ok.injEq, reduceCtorEq, false_iff]
      rintro ⟨rfl, h2⟩; exact hl h2

/-- 255 included, negatives excluded. -/
theorem toUint8_ok_iff {f : Val} {n : Nat} : toUint8 f = .ok n ↔ toU256 f = .ok (n : Int) ∧ n < 2 ^ 8 :=
  toUint8_eq f ▸ (toUintUpTo_ok_iff (hmax := by decide) (hw := by decide)).trans (and_congr_right' Nat.lt_succ_iff.symm)

theorem toUint16_ok_iff {f : Val} {n : Nat} : toUint16 f = .ok n ↔ toU256 f = .ok (n : Int) ∧ n < 2 ^ 16 :=
  toUint16_eq f ▸ (toUintUpTo_ok_iff (hmax := by decide) (hw := by decide)).trans (and_congr_right' Nat.lt_succ_iff.symm)

theorem toUint64_ok_iff {f : Val} {n : Nat} : toUint64 f = .ok n ↔ toU256 f = .ok (n : Int) ∧ n < 2 ^ 64 :=
  toUint64_eq f ▸ (toUintUpTo_ok_iff (hmax := by decide) (hw := by decide)).trans (and_congr_right' Nat.lt_succ_iff.symm)

/-! ## the narrowing conversions never wrap -/

/-- A negative numeral, or one above the width, is an error for every narrowing converter (here: the 8-bit one). -/
theorem toUint8_rejects (f : Val) (v : Int) (h : toU256 f = .ok v) (hv : v < 0 ∨ 255 < v) : toUint8 f = .error .uint8 :=
  toUint8_eq f ▸ toUintUpTo_rejects (hmax := by decide) (hw := by decide) h hv

theorem toUint16_rejects (f : Val) (v : Int) (h : toU256 f = .ok v) (hv : v < 0 ∨ 65535 < v) : toUint16 f = .error .uint16 :=
  toUint16_eq f ▸ toUintUpTo_rejects (hmax := by decide) (hw := by decide) h hv

theorem toUint64_rejects (f : Val) (v : Int) (h : toU256 f = .ok v) (hv : v < 0 ∨ 2 ^ 64 ≤ v) : toUint64 f = .error .uint64 :=
  toUint64_eq f ▸ toUintUpTo_rejects (hmax := by decide) (hw := by decide) h (by omega)

-- "-1" really parses, so the rejections below are not vacuous
example : toU256 (.ofU256 [45, 49]) = .ok (-1) := by decide +kernel
example : toUint8 (.ofU256 [45, 49]) = .error .uint8 := toUint8_rejects _ (-1) (by decide) (by omega)
example : toUint16 (.ofU256 [54, 53, 53, 51, 54]) = .error .uint16 := toUint16_rejects _ 65536 (by decide) (by omega)
example : toUint64 (.ofU256 [45, 53]) = .error .uint64 := toUint64_rejects _ (-5) (by decide) (by omega)

/-- The boundary values the pinned code got wrong. -/
example : toUint8 (.ofU256 (decBytes 255)) = .ok 255 := by decide +kernel
example : toUint16 (.ofU256 (decBytes 65535)) = .ok 65535 := by decide +kernel
example : toUint8 (.ofU256 [45, 49]) = .error .uint8 := by decide +kernel          -- "-1"
example : toUint8 (.ofU256 (decBytes 256)) = .error .uint8 := by decide +kernel
example : toUint16 (.ofU256 (decBytes 65536)) = .error .uint16 := by decide +kernel

/-- Nothing but `[+-]?[0-9]+` is a numeral: a byte that is not a digit anywhere after the first position, or a
non-digit non-sign first byte, or no digit at all, makes `toU256` fail. -/
theorem non_numeric_rejected (tag s : GoStr) (c : UInt8) (hc : c ∈ s.drop 1) (hn : isDigit c = false) :
    toU256 { u256 := some ⟨tag, s⟩ } = .error (.badNumeral .u256) ∨ toU256 { u256 := some ⟨tag, s⟩ } = .error (.badType .u256) := by
  unfold toU256
  dsimp only
  split
  · exact Or.inr rfl                        -- another tag
  · left
    have : parseInt s = none := by
      cases s with
      | nil => simp at hc
      | cons a rest =>
        -- with or without a sign in front, `c` is among the characters that must be digits
        have h1 : parseNat rest = none := parseNat_none_of_nondigit hc hn
        have h2 : parseNat (a :: rest) = none := parseNat_none_of_nondigit (List.mem_cons_of_mem a hc) hn
        unfold parseInt
        simp [h1, h2]
    simp [this]

example : parseInt [] = none := by decide +kernel                       -- ""
example : parseInt [32, 53] = none := by decide +kernel                 -- " 5"
example : parseInt [48, 120, 49, 48] = none := by decide +kernel        -- "0x10"
example : parseInt [49, 101, 51] = none := by decide +kernel            -- "1e3"
example : parseInt [49, 95, 48] = none := by decide +kernel             -- "1_0"
example : parseInt [0xd9, 0xa1, 0xd9, 0xa2] = none := by decide +kernel -- "١٢"
example : parseInt [43, 53] = some 5 := by decide +kernel               -- "+5"
example : parseInt [45, 48] = some 0 := by decide +kernel               -- "-0"
-- the hypotheses of `non_numeric_rejected` at 'x' inside "0x10"
example : (120 : UInt8) ∈ ([48, 120, 49, 48] : GoStr).drop 1 ∧ isDigit 120 = false := by decide +kernel

/-- The values of one `WormholeMessage` event (what `publishWormholeMessage` emitted). -/
structure Event where
  sender : Bytes
  target : Nat
  sequence : Nat
  nonce : Bytes
  payload : Bytes
  cl : Nat

/-- "fits the VAA format" -/
def Event.Fits (e : Event) : Prop :=
  e.sender.length = 32 ∧ e.target < 2 ^ 16 ∧ e.sequence < 2 ^ 64 ∧ e.nonce.length = 4 ∧ e.cl < 2 ^ 8

instance (e : Event) : Decidable e.Fits := by unfold Event.Fits; infer_instance

/-- The node's JSON rendering: ByteVec as lower-case hex, U256 as canonical decimal, tagged with the declared types. -/
def Event.render (e : Event) : List Val :=
  [.ofByteVec (encodeHex e.sender), .ofU256 (decBytes e.target), .ofU256 (decBytes e.sequence),
   .ofByteVec (encodeHex e.nonce), .ofByteVec (encodeHex e.payload), .ofU256 (decBytes e.cl)]

def sampleEvent : Event :=
  { sender := List.replicate 32 0xde, target := 65535, sequence := 2 ^ 64 - 1, nonce := [0x12, 0xe5, 0x51, 0xd9],
    payload := [2, 0, 255], cl := 255 }

example : sampleEvent.Fits := by decide +kernel
example : ¬ { sampleEvent with cl := 256 }.Fits := by decide +kernel
example : ¬ { sampleEvent with target := 65536 }.Fits := by decide +kernel
example : ¬ { sampleEvent with sequence := 2 ^ 64 }.Fits := by decide +kernel
example : ¬ { sampleEvent with nonce := [1, 2, 3] }.Fits := by decide +kernel

/-- **Exactness of everything accepted.**  If `ToWormholeMessage` returns a message then there were exactly six fields,
of types ByteVec, U256, U256, ByteVec, ByteVec, U256, the byte fields are well-formed hex of 32 / 4 / any bytes and the
numerals denote — as integers, no reduction modulo anything — exactly the returned target chain (< 2^16), sequence
(< 2^64) and consistency level (< 2^8). -/
theorem c11_accepted_exact (fields : List Val) (tx : GoStr) (m : Msg) (h : toWormholeMessage fields tx = .ok m) :
    ∃ f0 f1 f2 f3 f4 f5 nonce, fields = [f0, f1, f2, f3, f4, f5] ∧
      toByteVec f0 = .ok m.sender ∧ m.sender.length = 32 ∧
      toU256 f1 = .ok (m.target : Int) ∧ m.target < 2 ^ 16 ∧
      toU256 f2 = .ok (m.sequence : Int) ∧ m.sequence < 2 ^ 64 ∧
      toByteVec f3 = .ok nonce ∧ nonce.length = 4 ∧ m.nonce = unbe nonce ∧
      toByteVec f4 = .ok m.payload ∧
      toU256 f5 = .ok (m.cl : Int) ∧ m.cl < 2 ^ 8 ∧ m.txId = tx := by
  unfold toWormholeMessage at h
  split at h
  · next f0 f1 f2 f3 f4 f5 =>
    -- each converter in turn: an error ends the call, a value goes on
    split at h; · cases h
    next emitter h0 =>
    split at h; · cases h
    next target h1 =>
    split at h; · cases h
    next sequence h2 =>
    split at h; · cases h
    next nonce h3 =>
    split at h; · cases h
    next hlen =>
    split at h; · cases h
    next payload h4 =>
    split at h; · cases h
    next cl h5 =>
    cases h
    obtain ⟨a0, b0⟩ := toByte32_ok_iff.mp h0
    obtain ⟨a1, b1⟩ := toUint16_ok_iff.mp h1
    obtain ⟨a2, b2⟩ := toUint64_ok_iff.mp h2
    obtain ⟨a5, b5⟩ := toUint8_ok_iff.mp h5
    exact ⟨f0, f1, f2, f3, f4, f5, nonce, rfl, a0, b0, a1, b1, a2, b2, h3, by simpa using hlen, rfl, h4, a5, b5, rfl⟩
  · cases h

example : (toWormholeMessage sampleEvent.render [0xab]).toOption.isSome = true := by decide +kernel

/-- Converse of `c11_accepted_exact`. -/
theorem toWormholeMessage_of_fields_ok {f0 f1 f2 f3 f4 f5 : Val} (tx : GoStr) {s n p : Bytes} {t q c : Nat}
    (h0 : toByteVec f0 = .ok s) (l0 : s.length = 32) (h1 : toU256 f1 = .ok (t : Int)) (l1 : t < 2 ^ 16)
    (h2 : toU256 f2 = .ok (q : Int)) (l2 : q < 2 ^ 64) (h3 : toByteVec f3 = .ok n) (l3 : n.length = 4)
    (h4 : toByteVec f4 = .ok p) (h5 : toU256 f5 = .ok (c : Int)) (l5 : c < 2 ^ 8) :
    toWormholeMessage [f0, f1, f2, f3, f4, f5] tx =
      .ok { txId := tx, sender := s, target := t, nonce := unbe n, payload := p, sequence := q, cl := c } := by
  have e0 := toByte32_ok_iff.mpr ⟨h0, l0⟩
  have e1 := toUint16_ok_iff.mpr ⟨h1, l1⟩
  have e2 := toUint64_ok_iff.mpr ⟨h2, l2⟩
  have e5 := toUint8_ok_iff.mpr ⟨h5, l5⟩
  simp [toWormholeMessage, e0, e1, e2, h3, l3, h4, e5]

/-- Wrong number of fields ⇒ error. -/
theorem wrong_count_rejected (fields : List Val) (tx : GoStr) (h : fields.length ≠ 6) :
    toWormholeMessage fields tx = .error .fieldCount := by
  unfold toWormholeMessage
  split
  · simp at h
  · rfl

example : toWormholeMessage (sampleEvent.render.take 5) [] = .error .fieldCount := wrong_count_rejected _ _ (by decide)

/-- Wrong type tag (or a different / missing variant) in any of the six positions ⇒ error. -/
theorem wrong_tag_rejected (fields : List Val) (tx : GoStr) (i : Nat) (f : Val) (hi : fields[i]? = some f)
    (hbad : (i ∈ [0, 3, 4] ∧ ∀ t, f.byteVec = some t → t.typ ≠ tagByteVec) ∨ (i ∈ [1, 2, 5] ∧ ∀ t, f.u256 = some t → t.typ ≠ tagU256)) :
    ∃ e, toWormholeMessage fields tx = .error e := by
  cases hres : toWormholeMessage fields tx with
  | error e => exact ⟨e, rfl⟩
  | ok m =>
    exfalso
    obtain ⟨f0, f1, f2, f3, f4, f5, nonce, rfl, a0, _, a1, _, a2, _, a3, _, _, a4, a5, _, _⟩ := c11_accepted_exact _ _ _ hres
    rcases hbad with ⟨hm, hb⟩ | ⟨hm, hu⟩
    · have key : ∀ bs, toByteVec f ≠ .ok bs := fun bs hg =>
        have ⟨t, h1, h2, _⟩ := toByteVec_ok_iff.mp hg
        hb t h1 h2
      simp only [List.mem_cons, List.not_mem_nil, or_false] at hm
      rcases hm with rfl | rfl | rfl <;> cases hi
      · exact key _ a0
      · exact key _ a3
      · exact key _ a4
    · have key : ∀ v, toU256 f ≠ .ok v := fun v hg =>
        have ⟨t, h1, h2, _⟩ := toU256_ok_iff.mp hg
        hu t h1 h2
      simp only [List.mem_cons, List.not_mem_nil, or_false] at hm
      rcases hm with rfl | rfl | rfl <;> cases hi
      · exact key _ a1
      · exact key _ a2
      · exact key _ a5

example : ∃ e, toWormholeMessage (sampleEvent.render.set 5 { u256 := some ⟨tagI256, [49]⟩ }) [] = .error e :=
  wrong_tag_rejected _ _ 5 _ rfl (Or.inr ⟨by decide, by intro t h; cases h; decide⟩)

private theorem toByteVec_render (b : Bytes) : toByteVec (.ofByteVec (encodeHex b)) = .ok b :=
  toByteVec_ok_iff.mpr ⟨⟨tagByteVec, encodeHex b⟩, rfl, rfl, decodeHex_encodeHex b⟩

private theorem toU256_render (n : Nat) : toU256 (.ofU256 (decBytes n)) = .ok (n : Int) :=
  toU256_ok_iff.mpr ⟨⟨tagU256, decBytes n⟩, rfl, rfl, parseInt_decBytes n⟩

/-- **C11, first half.**  Every event whose fields fit the VAA format is decoded into a message with exactly those
values; published with the block timestamp (to the millisecond) and the Alephium chain id. -/
theorem c11_fit_decoded (e : Event) (tx : GoStr) (blockTsMs : Int) (h : e.Fits) :
    ∃ w, toWormholeMessage e.render tx = .ok w ∧
      (toMessagePublication w blockTsMs).emitter = e.sender ∧
      (toMessagePublication w blockTsMs).targetChain = e.target ∧
      (toMessagePublication w blockTsMs).sequence = e.sequence ∧
      (toMessagePublication w blockTsMs).nonce = unbe e.nonce ∧
      (toMessagePublication w blockTsMs).payload = e.payload ∧
      (toMessagePublication w blockTsMs).cl = e.cl ∧
      (toMessagePublication w blockTsMs).emitterChain = 255 ∧
      (toMessagePublication w blockTsMs).unixMilli = blockTsMs := by
  obtain ⟨l0, l1, l2, l3, l5⟩ := h
  refine ⟨_, toWormholeMessage_of_fields_ok tx
    (toByteVec_render _) l0 (toU256_render _) l1 (toU256_render _) l2 (toByteVec_render _) l3 (toByteVec_render _) (toU256_render _) l5,
    rfl, rfl, rfl, rfl, rfl, rfl, rfl, (toMessagePublication_time _ _).1⟩

example : (toWormholeMessage sampleEvent.render []).toOption.map (·.cl) = some 255 := by decide +kernel

/-- **C11, second half.**  An event with any value outside the VAA ranges is rejected with an error (so it can never
come out wrapped or truncated). -/
theorem c11_unfit_rejected (e : Event) (tx : GoStr) (h : ¬ e.Fits) : ∃ err, toWormholeMessage e.render tx = .error err := by
  cases hres : toWormholeMessage e.render tx with
  | error err => exact ⟨err, rfl⟩
  | ok m =>
    exfalso; apply h
    obtain ⟨f0, f1, f2, f3, f4, f5, nonce, hf, a0, b0, a1, b1, a2, b2, a3, b3, _, _, a5, b5, _⟩ := c11_accepted_exact _ _ _ hres
    simp only [Event.render, List.cons.injEq, and_true] at hf
    obtain ⟨rfl, rfl, rfl, rfl, rfl, rfl⟩ := hf
    rw [toByteVec_render] at a0 a3
    rw [toU256_render] at a1 a2 a5
    simp only [Except.ok.injEq, Int.natCast_inj] at a0 a1 a2 a3 a5
    exact ⟨a0 ▸ b0, by omega, by omega, a3 ▸ b3, by omega⟩

example : ∃ err, toWormholeMessage { sampleEvent with cl := 256 }.render [] = .error err := c11_unfit_rejected _ _ (by decide)

/-! ## the driver's Spec holds of the model -/

private theorem denotesBytesLenient_iff {f : Val} {b : Bytes} : denotesBytesLenient f = some b ↔ toByteVec f = .ok b := by
  rw [toByteVec_ok_iff]
  unfold denotesBytesLenient
  cases f.byteVec with
  | none => simp
  | some t =>
    by_cases ht : t.typ = tagByteVec
    · rcases hd : decodeHex t.value with ⟨r, _ | _⟩ <;> simp [ht, hd]
    · simp [ht]

private theorem denotesBytes_toByteVec {f : Val} {b : Bytes} (h : denotesBytes f = some b) : toByteVec f = .ok b := by
  rw [← denotesBytesLenient_iff]
  unfold denotesBytes at h
  unfold denotesBytesLenient
  cases hf : f.byteVec with
  | none => simp [hf] at h
  | some t =>
    simp only [hf] at h ⊢
    split at h
    · next hc => rw [if_pos hc.1]; exact h
    · cases h

private theorem denotesNat_toU256 {f : Val} {n : Nat} (h : denotesNat f = some n) : toU256 f = .ok (n : Int) := by
  rw [toU256_ok_iff]
  unfold denotesNat at h
  cases hf : f.u256 with
  | none => simp [hf] at h
  | some t =>
    simp only [hf] at h
    split at h
    · next ht => exact ⟨t, rfl, ht.1, parseInt_of_parseNat h⟩
    · cases h

private theorem denotesNatLenient_iff {f : Val} {n : Nat} : denotesNatLenient f = some n ↔ toU256 f = .ok (n : Int) := by
  rw [toU256_ok_iff]
  unfold denotesNatLenient
  cases hf : f.u256 with
  | none => simp
  | some t =>
    by_cases ht : t.typ = tagU256
    · simp only [ht, if_true, Option.some.injEq, exists_eq_left', true_and]
      cases hp : parseInt t.value with
      | none => simp
      | some v =>
        simp only [Option.some.injEq]
        split
        · simp only [Option.some.injEq]; omega          -- `0 ≤ v`
        · simp only [false_iff, reduceCtorEq]; omega    -- `v < 0`
    · simp [ht]

/-- Every field list in the Spec's strict domain (lower-case hex, canonical numerals) that denotes an in-range event is decoded to
that event. -/
theorem c11_fit_fields_decoded (fields : List Val) (tx : GoStr) (m : Msg) (h : fitEvent fields tx = some m) :
    toWormholeMessage fields tx = .ok m := by
  unfold fitEvent at h
  split at h
  · next f0 f1 f2 f3 f4 f5 =>
    split at h
    · next s t q n p c d0 d1 d2 d3 d4 d5 =>  -- every field denotes a value
      split at h
      · next hr =>                            -- all within the ranges
        cases h
        obtain ⟨l0, l1, l2, l3, l5⟩ := hr
        exact toWormholeMessage_of_fields_ok tx (denotesBytes_toByteVec d0) l0 (denotesNat_toU256 d1) l1
          (denotesNat_toU256 d2) l2 (denotesBytes_toByteVec d3) l3 (denotesBytes_toByteVec d4) (denotesNat_toU256 d5) l5
      · cases h
    · cases h
  · cases h

-- upper-case hex and leading zeros are outside the strict domain, lower-case canonical is inside
example : (fitEvent sampleEvent.render []).isSome = true := by decide +kernel
example : denotesBytes (.ofByteVec [65, 66]) = none ∧ denotesBytesLenient (.ofByteVec [65, 66]) = some [0xab] := by decide +kernel   -- "AB"
example : denotesNat (.ofU256 [48, 55]) = none ∧ denotesNatLenient (.ofU256 [48, 55]) = some 7 := by decide +kernel                 -- "07"

/-- The Spec's "must be accepted" domain contains every in-range event as the node renders it (so the driver's
`fit-rejected` clause is exactly the first half of the statement). -/
theorem c11_render_is_fit (e : Event) (tx : GoStr) (h : e.Fits) :
    fitEvent e.render tx = some { txId := tx, sender := e.sender, target := e.target, nonce := unbe e.nonce,
                                  payload := e.payload, sequence := e.sequence, cl := e.cl } := by
  have hb : ∀ b, denotesBytes (.ofByteVec (encodeHex b)) = some b := by
    intro b; simp [denotesBytes, Val.ofByteVec, isLowerHex_encodeHex, decodeHex_encodeHex]
  have hn : ∀ n, denotesNat (.ofU256 (decBytes n)) = some n := by
    intro n; simp [denotesNat, Val.ofU256, isCanonicalNumeral_decBytes, parseNat_decBytes]
  obtain ⟨l0, l1, l2, l3, l5⟩ := h
  simp only [fitEvent, Event.render, hb, hn]
  rw [if_pos ⟨l0, l1, l2, l3, l5⟩]

example : fitEvent sampleEvent.render [] ≠ none := by decide +kernel

/-- Everything the model accepts is the event the fields denote under the lenient reading (sign `+`, `-0`). -/
theorem c11_accepted_denoted (fields : List Val) (tx : GoStr) (m : Msg) (h : toWormholeMessage fields tx = .ok m) :
    fitEventLenient fields tx = some m := by
  obtain ⟨f0, f1, f2, f3, f4, f5, nonce, rfl, a0, b0, a1, b1, a2, b2, a3, b3, hn, a4, a5, b5, htx⟩ := c11_accepted_exact _ _ _ h
  unfold fitEventLenient
  simp only [denotesBytesLenient_iff.mpr a0, denotesNatLenient_iff.mpr a1, denotesNatLenient_iff.mpr a2,
    denotesBytesLenient_iff.mpr a3, denotesBytesLenient_iff.mpr a4, denotesNatLenient_iff.mpr a5]
  rw [if_pos ⟨b0, b1, b2, b3, b5⟩]
  cases m
  cases hn
  cases htx
  rfl

/-- The Bool Spec the driver evaluates on the implementation's answer is satisfied by the model's answer, for every
field list and transaction id: fit ⇒ accepted with exactly the denoted values, accepted ⇒ denoted, never wrapped. -/
theorem c11_model_meets_spec (fields : List Val) (tx : GoStr) :
    specMsg fields tx (match toWormholeMessage fields tx with | .ok m => some m | .error _ => none) = none := by
  have hsame : ∀ m : Msg, m.sameValues m = true := by intro m; simp [Msg.sameValues]
  unfold specMsg
  cases hfit : fitEvent fields tx with
  | some m =>
    rw [c11_fit_fields_decoded _ _ _ hfit]
    simp [hsame]
  | none =>
    cases hres : toWormholeMessage fields tx with
    | error e => rfl
    | ok o =>
      rw [c11_accepted_denoted _ _ _ hres]
      simp [hsame]

/-- `toMessagePublication` copies every field, stamps chain id 255 and turns the header's milliseconds into a
normalised (seconds, nanoseconds) pair denoting the same instant — for every `int64` (indeed every integer) timestamp,
negative ones included. -/
theorem c11_publication (w : Msg) (ts : Int) :
    specPub w ts (toMessagePublication w ts) = none := by
  obtain ⟨h1, h2, h3, h4⟩ := toMessagePublication_time w ts
  rw [specPub, if_neg (fun h => h rfl), if_neg (by omega), if_neg (by simp [toMessagePublication])]

/-- A 64-character hex transaction id is published as exactly its 32 bytes. -/
theorem c11_txhash (b : Bytes) (h : b.length = 32) : hexToHash (encodeHex b) = b := by
  have hl : (encodeHex b).length = 64 := by rw [encodeHex_length, h]
  have hne : ¬ ((encodeHex b).length % 2 = 1) := by omega
  unfold hexToHash
  cases b with
  | nil => simp at h
  | cons x xs =>
    -- a lower-case hex string never starts with "0x" (`AlphUtil.hexDigit`: the byte one, not `Whv.hexDigit` on `Char`)
    have hx : ∀ n, n < 16 → ¬ ((AlphUtil.hexDigit n).toNat = 120 ∨ (AlphUtil.hexDigit n).toNat = 88) := by decide
    have hx' := hx (x.toNat % 16) (Nat.mod_lt _ (by omega))
    rw [encodeHex_cons] at hne ⊢
    simp only [hx', and_false, if_false, hne]      -- no prefix is cut off, and the length is even: no `0` is put in front
    rw [← encodeHex_cons, decodeHex_encodeHex]
    simp [h]                                        -- exactly 32 bytes: none dropped, none padded

/-- `HexToByte32(b.ToHex()) = b`. -/
theorem c11_hex_roundtrip (b : Bytes) (h : b.length = 32) : hexToByte32 (toHex32 b) = .ok b := by
  have := hexToFixedSizeBytes_encodeHex b
  rwa [h] at this

example : hexToByte32 (toHex32 (List.replicate 32 0xab)) = .ok (List.replicate 32 0xab) := c11_hex_roundtrip _ (by decide)

/-- `HexToByte32(s) = b` implies `s` has 64 characters, `b` has 32 bytes and `b.ToHex()` is `s` (lower-cased). -/
theorem c11_hex_decode_encode (s : GoStr) (b : Bytes) (h : hexToByte32 s = .ok b) :
    s.length = 64 ∧ b.length = 32 ∧ toHex32 b = lowerHex s :=
  hexToFixedSizeBytes_ok h

-- an upper-case string is accepted (and re-encodes to its lower-case form)
example : (hexToByte32 (List.replicate 64 65)).toOption.isSome = true := by decide +kernel

/-- Anything that is not exactly `2·length` hex characters is an error. -/
theorem c11_hex_unfit_rejected (s : GoStr) (n : Nat) (h : s.length ≠ 2 * n) : hexToFixedSizeBytes s n = .error .hexFixedLen := by
  unfold hexToFixedSizeBytes
  rw [if_pos (by omega)]

/-- **Round trip against the contract encoder.**  Whatever `TokenBridge.attestToken` encodes for an Alephium token
(`localChainId = 255`) is decoded by `parseAttestToken` to the same token id and decimals, and to the symbol / name
fields with their NUL padding removed. -/
theorem c11_attest_roundtrip (tokenId symbol name p : Bytes) (decimals : Nat)
    (h : ralphAttestPayload tokenId 255 decimals symbol name = some p) :
    parseAttestToken p = .ok { tokenId := tokenId, decimals := decimals, symbol := trimNul symbol, name := trimNul name } := by
  unfold ralphAttestPayload at h
  split at h
  · next hc =>
    obtain ⟨hs, hn, ht, _, hd⟩ := hc
    cases h
    rw [parseAttestToken_fields (be_length _ _) ht (be_length _ _) (be_length _ _) hs hn,
      if_neg (by decide), unbe_be_of_lt (by simpa using hd)]
  · cases h

example : (ralphAttestPayload (List.replicate 32 7) 255 18 (List.replicate 28 0 ++ [65, 76, 80, 72]) (List.replicate 24 0 ++ [65, 108, 101, 112, 104, 105, 117, 109])).isSome = true := by decide +kernel

/-- With the padding made explicit: a symbol / name without NUL at either end, padded on the left (this fork's
convention), on the right, or both, comes back exactly. -/
theorem c11_attest_roundtrip_padded (tokenId sym nm p : Bytes) (decimals a b c d : Nat)
    (hs1 : ∀ x, sym.head? = some x → x ≠ 0) (hs2 : ∀ x, sym.getLast? = some x → x ≠ 0)
    (hn1 : ∀ x, nm.head? = some x → x ≠ 0) (hn2 : ∀ x, nm.getLast? = some x → x ≠ 0)
    (h : ralphAttestPayload tokenId 255 decimals (List.replicate a 0 ++ sym ++ List.replicate b 0)
          (List.replicate c 0 ++ nm ++ List.replicate d 0) = some p) :
    parseAttestToken p = .ok { tokenId := tokenId, decimals := decimals, symbol := sym, name := nm } := by
  rw [c11_attest_roundtrip _ _ _ _ _ h, trimNul_padded a b (fun e => hs1 0 e rfl) (fun e => hs2 0 e rfl),
    trimNul_padded c d (fun e => hn1 0 e rfl) (fun e => hn2 0 e rfl)]

-- "ALPH" left-padded, "Alephium" right-padded
example : parseAttestToken (be 1 2 ++ List.replicate 32 7 ++ be 2 255 ++ be 1 18 ++ (List.replicate 28 0 ++ [65, 76, 80, 72]) ++
      ([65, 108, 101, 112, 104, 105, 117, 109] ++ List.replicate 24 0)) =
    .ok { tokenId := List.replicate 32 7, decimals := 18, symbol := [65, 76, 80, 72], name := [65, 108, 101, 112, 104, 105, 117, 109] } :=
  c11_attest_roundtrip_padded _ _ _ _ 18 28 0 0 24 (by decide) (by decide) (by decide) (by decide) (by decide +kernel)

/-- Whatever `parseAttestToken` accepts has exactly 100 bytes, token chain 255, and the returned fields are the
slices at the contract's offsets (nothing else is read). -/
theorem c11_attest_accepted (p : Bytes) (t : TokenInfo) (h : parseAttestToken p = .ok t) :
    p.length = 100 ∧ unbe (slice p 33 35) = 255 ∧ t.tokenId = slice p 1 33 ∧ t.decimals = unbe (slice p 35 36) ∧
    t.symbol = trimNul (slice p 36 68) ∧ t.name = trimNul (slice p 68 100) := by
  unfold parseAttestToken at h
  by_cases hl : p.length = attestTokenPayloadLength
  · by_cases hc : unbe (slice p 33 35) = chainIDAlephium
    · simp only [hl, hc, ne_eq, not_true_eq_false, if_false, Except.ok.injEq] at h
      subst h
      exact ⟨hl, hc, rfl, rfl, rfl, rfl⟩
    · simp [hl, hc] at h
  · simp [hl] at h

example : (parseAttestToken (List.replicate 33 1 ++ [0, 255] ++ List.replicate 65 0)).toOption.isSome = true := by decide +kernel

/-! ## contract id ↔ address (base58 as a parameter) -/

/-- For any base58 codec with `dec (enc b) = b`: an address that is the encoding of `0x03 ‖ id` maps to `id`, and the hex of a
32-byte `id` maps to that address. -/
theorem c11_contract_address_roundtrip (enc : Bytes → GoStr) (dec : GoStr → B58Res) (hcodec : ∀ b, dec (enc b) = .ok b)
    (id : Bytes) (h : id.length = 32) :
    toContractIdWith dec (enc (3 :: id)) = .ok id ∧ toContractAddressWith enc (toHex32 id) = .ok (enc (3 :: id)) := by
  constructor
  · simp [toContractIdWith, hcodec, h]
  · rw [toContractAddressWith, show hexToFixedSizeBytes (toHex32 id) 32 = .ok id from c11_hex_roundtrip id h]

/-- For any base58 codec with `dec (enc b) = b`: `ToContractId(ToContractAddress(hex id)) = id` for every 32-byte id. -/
theorem c11_contract_id_roundtrip (enc : Bytes → GoStr) (dec : GoStr → B58Res) (hcodec : ∀ b, dec (enc b) = .ok b)
    (id : Bytes) (h : id.length = 32) :
    ∃ a, toContractAddressWith enc (toHex32 id) = .ok a ∧ toContractIdWith dec a = .ok id :=
  have ⟨h1, h2⟩ := c11_contract_address_roundtrip enc dec hcodec id h
  ⟨_, h2, h1⟩

/-- The base58 hypothesis holds of the model of btcutil's codec (which is compared with the real library on every
run): `Decode(Encode(b)) = b` for every byte string, leading zero bytes included. -/
theorem c11_base58_roundtrip (b : Bytes) : b58Decode (b58Encode b) = .ok b := b58Decode_b58Encode b

/-- Hence, unconditionally for the modelled code: `ToContractId(ToContractAddress(hex id)) = id` for every 32-byte id,
and a contract address maps to its id and back to itself. -/
theorem c11_contract_id_roundtrip_btcutil (id : Bytes) (h : id.length = 32) :
    (∃ a, toContractAddress (toHex32 id) = .ok a ∧ toContractId a = .ok id) ∧
    toContractId (b58Encode (3 :: id)) = .ok id ∧ toContractAddress (toHex32 id) = .ok (b58Encode (3 :: id)) :=
  ⟨c11_contract_id_roundtrip b58Encode b58Decode b58Decode_b58Encode id h,
   c11_contract_address_roundtrip b58Encode b58Decode b58Decode_b58Encode id h⟩

example : (List.replicate 32 (0 : UInt8)).length = 32 := by decide +kernel

/-- The concrete btcutil model on a sample with a leading zero byte. -/
example : b58Decode (b58Encode [3, 0, 255, 7]) = .ok [3, 0, 255, 7] := by decide +kernel

/-! ## contract layout, re-extracted from the sources on every run -/

-- `clLowerBoundOnly`: the contract only requires `consistencyLevel ≥ minimal`, so 255 is a level `toUint8` must accept.
/-- The event the governance contract declares has the six fields, in the order and with the types the Go converter
expects, and is emitted with its parameters in that order. -/
theorem c11_event_shape :
    Gen.C11.eventFieldTypes = [tagByteVec, tagU256, tagU256, tagByteVec, tagByteVec, tagU256] ∧
    Gen.C11.eventFieldNames = ["sender", "targetChainId", "sequence", "nonce", "payload", "consistencyLevel"] ∧
    Gen.C11.eventFieldTypes.length = wormholeMessageFieldSize ∧
    Gen.C11.goWormholeMessageFieldSize = wormholeMessageFieldSize ∧
    Gen.C11.emitInOrder = true ∧ Gen.C11.emitTyped = true ∧ Gen.C11.clLowerBoundOnly = true := by
  decide +kernel

/-- `WormholeMessage` is declared at the position among the governance contract's events that the watcher selects
(`WormholeMessageEventIndex` in utils.go): a node reports events by that index. -/
theorem c11_event_index : Gen.C11.eventIndex = Gen.C11.goWormholeMessageEventIndex := by decide +kernel

/-- The event's `sender` is `callerContractId!()`; the only contract that calls `governance.publishWormholeMessage` is the TokenBridge
contract, whose id the watcher is configured with. -/
theorem c11_only_token_bridge_publishes : Gen.C11.wormholePublishers = ["token_bridge/token_bridge.ral"] := by decide +kernel

/-- running end offsets of a width list -/
def ends : List Nat → Nat → List Nat
  | [], _ => []
  | w :: ws, o => (o + w) :: ends ws (o + w)

/-- The attestation payload the token bridge builds has the widths the model's encoder uses, the payload id the Go
code tests, and its field boundaries are the offsets both the Go parser and the Ralph handler slice at. -/
theorem c11_attest_layout :
    Gen.C11.attestEncoder.map (·.2) = attestLayout ∧
    Gen.C11.attestEncoder.map (·.1) = ["payloadId", "localTokenId", "localChainId", "decimals", "symbol", "name"] ∧
    Gen.C11.attestPayloadId = attestTokenPayloadId ∧ Gen.C11.goAttestTokenPayloadId = attestTokenPayloadId ∧
    Gen.C11.goTransferTokenPayloadId = transferTokenPayloadId ∧
    ends attestLayout 0 = attestOffsets ++ [attestTokenPayloadLength] ∧
    Gen.C11.goAttestTokenPayloadLength = attestTokenPayloadLength ∧ Gen.C11.handlerSize = attestTokenPayloadLength ∧
    Gen.C11.handlerSlices = [("tokenId", 1, 33), ("tokenChainId", 33, 35), ("decimals", 35, 36), ("symbol", 36, 68), ("name", 68, 100)] ∧
    Gen.C11.goSlices = [(1, 33), (33, 35), (36, 68), (68, 100), (35, 36)] ∧
    Gen.C11.goChainIDAlephium = chainIDAlephium ∧ Gen.C11.goHashLength = 32 := by
  decide +kernel

/-! ## the block timestamp is the event's own block's

`toMessagePublication` takes the header as an argument; which header the watcher passes is part of "decoded into a message
with exactly those values, the block timestamp, …".  In the model of the watcher (`Whv/Model/AlphWatch.lean`, tied to the
real `handleConfirmedEvents` / `handleObsvRequest` by the `alphwatch` driver) a confirmed batch is a list of (event, header of
its block) pairs, and every message is published under the header it is paired with. -/

/-- **Every message of a confirmed batch carries its own block's timestamp and its own consistency level**, in whatever
order the batch arrives and whatever events of other senders it contains. -/
theorem c11_batch_block_timestamp (cfg : Alph.Cfg) (conf : List (Alph.Unconf × Alph.Header)) :
    ∀ p ∈ (Alph.handleConfirmed cfg conf).1.map Alph.pubOf,
      ∃ c ∈ conf, p = Alph.toPub c.1.ev.tx c.1.msg c.2 ∧ p.ts = c.2.ts ∧ p.cl = c.1.msg.cl ∧ p.seq = c.1.msg.seq ∧ p.emitterChain = 255 := by
  intro p hp
  obtain ⟨c, hc, rfl⟩ := List.mem_map.1 hp
  exact ⟨c, (Alph.handleConfirmed_mem cfg conf c hc).1, rfl, rfl, rfl, rfl, rfl⟩

example : (Alph.handleConfirmed ⟨true, [7], "gov"⟩
    [(⟨⟨0, "b1", "t1", 0, "-", none⟩, ⟨[7], 2, 5, 9, 1, [1]⟩⟩, ⟨100, 0⟩), (⟨⟨1, "b0", "t0", 0, "-", none⟩, ⟨[8], 2, 5, 1, 1, [1]⟩⟩, ⟨90, 7⟩),
     (⟨⟨2, "b2", "t2", 0, "-", none⟩, ⟨[7], 2, 6, 8, 3, [1]⟩⟩, ⟨101, 16000⟩)]).1.map (fun c => ((Alph.pubOf c).seq, (Alph.pubOf c).ts, (Alph.pubOf c).cl))
    = [(9, 0, 1), (8, 16000, 3)] := by decide +kernel

-- `conv` is the watcher model's oracle for `ToWormholeMessage` (Model/AlphWatch); no Lean statement ties it to `toWormholeMessage` here.
/-- **The pending message is the event's message.**  Whatever `handleUnconfirmedEvents` hands to the event loop for a page — under
any answers of the token contracts, and for any watcher configuration: the conversion (`toUnconfirmedEvent`) does not read one —
is an event of that page together with exactly the message its fields decode to.  No field (the consistency level, say) is
adjusted on the way from a fetched event to a pending one; `c11_batch_block_timestamp` carries that through to the publication. -/
theorem c11_pending_message_exact (ans : Bytes → Alph.TiAns) (evs : List Alph.Event) :
    ∀ u ∈ Alph.handleUnconfirmed ans evs, u.ev ∈ evs ∧ u.ev.idx = 0 ∧ u.ev.conv = some u.msg := by
  intro u hu
  obtain ⟨h1, h2, h3, _⟩ := Alph.mem_handleUnconfirmed.1 hu
  exact ⟨h1, h2, h3⟩

-- a transfer with consistency level 3: the pending message and the publication carry 3 (nothing in the model knows a network flag here)
example : (Alph.handleUnconfirmed (fun _ => .apiErr) [⟨0, "b1", "t1", 0, "-", some ⟨[7], 2, 5, 9, 3, [1]⟩⟩]).map (·.msg.cl) = [3] := by decide +kernel

end Whv.C11
