import Whv.Lemmas.Vaa
import Whv.Gen.C04
import Whv.Driver.Vaa
/-!
# C04 — the signing digest is a deterministic, injective function of the message

* Go side: `Whv.serializeBody` / `Whv.marshal` (hand-written model, tied by the correspondence run).
* Contract side: `Whv.Gen.C04` (offset tables re-extracted from `Messages.sol` and `governance.ral` on every run).
* Keccak is never modelled: the digest is `H (H (serializeBody b))` for an arbitrary function `H`; everything
  is proved at pre-image level.
-/
namespace Whv.C04
open Whv

def fieldAt (bs : Bytes) (off w : Nat) : Bytes := (bs.drop off).take w

private theorem drop_append_of_le {α : Type} {a b : List α} {n : Nat} (h : a.length ≤ n) :
    (a ++ b).drop n = b.drop (n - a.length) := by
  rw [List.drop_append, List.drop_eq_nil_of_le h, List.nil_append]

private theorem fieldAt_append_of_le {a b : Bytes} {off w : Nat} (h : a.length ≤ off) :
    fieldAt (a ++ b) off w = fieldAt b (off - a.length) w :=
  congrArg (List.take w) (drop_append_of_le h)

private theorem fieldAt_zero_append {a b : Bytes} {w : Nat} (h : a.length = w) : fieldAt (a ++ b) 0 w = a :=
  List.take_left' h

/-- The model's layout table: (field, offset, width); width 0 = the rest. -/
def bodyLayout : List (String × Nat × Nat) :=
  [("timestamp", 0, 4), ("nonce", 4, 4), ("emitterChainId", 8, 2), ("targetChainId", 10, 2),
   ("emitterAddress", 12, 32), ("sequence", 44, 8), ("consistencyLevel", 52, 1), ("payload", 53, 0)]

/-- `serializeBody` really puts each big-endian field at the offset `bodyLayout` names. -/
theorem body_layout (b : Body) (h : b.emitter.length = 32) :
    fieldAt (serializeBody b) 0 4 = be 4 b.ts ∧
    fieldAt (serializeBody b) 4 4 = be 4 b.nonce ∧
    fieldAt (serializeBody b) 8 2 = be 2 b.emitterChain ∧
    fieldAt (serializeBody b) 10 2 = be 2 b.targetChain ∧
    fieldAt (serializeBody b) 12 32 = b.emitter ∧
    fieldAt (serializeBody b) 44 8 = be 8 b.sequence ∧
    fieldAt (serializeBody b) 52 1 = be 1 b.consistency ∧
    (serializeBody b).drop 53 = b.payload := by
  -- walk past every field that ends at or before the offset, then take the field that starts there
  simp only [serializeBody, fieldAt_append_of_le, drop_append_of_le, fieldAt_zero_append, be_length, h, Nat.reduceLeDiff,
    Nat.reduceSub, List.drop_zero, and_self]

/-- Solidity `parseVM` reads exactly the model's body layout … -/
theorem sol_body_offsets : Whv.Gen.C04.solBody = bodyLayout := by decide +kernel

/-- … and every body field the Ralph parser reads sits at the model's offset with the model's width (`ralConvMismatch` counts the
fields whose integer conversion is of another width than the slice it is applied to). -/
theorem ral_body_offsets : (∀ e ∈ Whv.Gen.C04.ralBody, e ∈ bodyLayout) ∧ Whv.Gen.C04.ralConvMismatch = 0 := by decide +kernel

/-- Header and signature records: 1 + 4 + 1 bytes, then 66-byte records (index ‖ 65-byte signature), in all three. -/
theorem header_offsets :
    Whv.Gen.C04.solHeader = [("version", 0, 1), ("guardianSetIndex", 1, 4), ("signersLen", 5, 1)] ∧
    Whv.Gen.C04.ralHeader = [("version", 0, 1), ("guardianSetIndex", 1, 4), ("signersLen", 5, 1)] ∧
    Whv.Gen.C04.solSig = [("guardianIndex", 0, 1), ("r", 1, 32), ("s", 33, 32), ("v", 65, 1)] ∧
    Whv.Gen.C04.ralSig = [("guardianIndex", 0, 1), ("signature", 1, 65)] ∧
    Whv.Gen.C04.ralSigStart = 6 ∧ Whv.Gen.C04.ralSigStride = 66 ∧ Whv.Gen.C04.ralBodyStart = (6, 66) ∧
    Whv.Gen.C04.ralBodyStartCount = "signatureSize" := by decide +kernel

/-- Both contracts hash the body twice (and Solidity checks the version byte). The Go side is not a textual fact: `SigningMsg`
is compared with Keccak(Keccak(`SerializeBody`)) recomputed by the harness on every `body` line (clause
`digest-not-double-keccak`). -/
theorem double_hash_everywhere :
    Whv.Gen.C04.solDoubleHash = true ∧ Whv.Gen.C04.ralDoubleHash = true ∧
    Whv.Gen.C04.solVersionCheck = true := by decide +kernel

/-- The bytes the contracts hash — everything after the `6 + 66·k`-byte header of the wire form — are exactly the
Go signing body, whatever the header says. -/
theorem wire_body (v : Vaa) (hs : ∀ s ∈ v.sigs, s.WF) :
    (marshal v).drop (Whv.Gen.C04.ralBodyStart.1 + v.sigs.length * Whv.Gen.C04.ralBodyStart.2) = serializeBody v.body := by
  have e : marshal v = (be 1 v.version ++ (be 4 v.gsIndex ++ (be 1 v.sigs.length ++ sigsBytes v.sigs))) ++
      serializeBody v.body := by
    simp only [marshal, List.append_assoc]
  rw [show Whv.Gen.C04.ralBodyStart = (6, 66) from rfl, e, List.drop_left']
  -- left to show: the header is `1 + 4 + 1 + 66·k` bytes long
  simp only [List.length_append, be_length, sigsBytes_length hs]
  omega

/-- `SigningMsg` for an arbitrary hash function `H` (Keccak-256 in the code; never modelled). -/
def signingMsg (H : Bytes → Bytes) (v : Vaa) : Bytes := H (H (serializeBody v.body))

/-- The digest ignores version, guardian-set index and signatures: it is a function of the body alone. -/
theorem header_independent (H : Bytes → Bytes) (v₁ v₂ : Vaa) (h : v₁.body = v₂.body) :
    signingMsg H v₁ = signingMsg H v₂ := by
  unfold signingMsg; rw [h]

/-- What the contracts hash from the wire form is what the guardians signed. -/
theorem contract_digest_eq (H : Bytes → Bytes) (v : Vaa) (hs : ∀ s ∈ v.sigs, s.WF) :
    H (H ((marshal v).drop (Whv.Gen.C04.ralBodyStart.1 + v.sigs.length * Whv.Gen.C04.ralBodyStart.2))) = signingMsg H v := by
  rw [wire_body v hs]; rfl

/-- The driver's reading of a serialized VAA as the contracts read it (`contractBody`: skip `6 + 66·(count byte)` bytes) yields the
signing body — for EVERY payload length, the empty payload included (the clause `wire-body-not-signing-body` evaluates exactly this
on `Marshal`'s output). -/
theorem contract_body_of_wire (v : Vaa) (hn : v.sigs.length ≤ 255) (hs : ∀ s ∈ v.sigs, s.WF) :
    Whv.Driver.VaaFam.contractBody (marshal v) = serializeBody v.body := by
  simp only [Whv.Driver.VaaFam.contractBody, takeN_five_marshal, takeN_be, unbe_be1 (Nat.lt_succ_of_le hn)]
  exact List.drop_left' (sigsBytes_length hs)

/-- **Injectivity**: two in-range bodies with the same signing body are equal, field for field. -/
theorem body_injective (b₁ b₂ : Body) (h₁ : b₁.WF) (h₂ : b₂.WF)
    (h : serializeBody b₁ = serializeBody b₂) : b₁ = b₂ := by
  obtain ⟨a1, a2, a3, a4, a5, a6, a7⟩ := h₁
  obtain ⟨c1, c2, c3, c4, c5, c6, c7⟩ := h₂
  -- every field can be read back at its offset
  obtain ⟨p1, p2, p3, p4, p5, p6, p7, p8⟩ := body_layout b₁ a5
  obtain ⟨q1, q2, q3, q4, q5, q6, q7, q8⟩ := body_layout b₂ c5
  rw [h] at p1 p2 p3 p4 p5 p6 p7 p8
  cases b₁; cases b₂
  simp only [Body.mk.injEq]
  exact ⟨be_inj_of_lt a1 c1 (p1.symm.trans q1), be_inj_of_lt a2 c2 (p2.symm.trans q2), be_inj_of_lt a3 c3 (p3.symm.trans q3),
    be_inj_of_lt a4 c4 (p4.symm.trans q4), p5.symm.trans q5, be_inj_of_lt a6 c6 (p6.symm.trans q6),
    be_inj_of_lt a7 c7 (p7.symm.trans q7), p8.symm.trans q8⟩

/-- Contrapositive, as the statement puts it: two messages that differ in any body field never share a signing body. -/
theorem differ_then_bodies_differ (b₁ b₂ : Body) (h₁ : b₁.WF) (h₂ : b₂.WF) (hne : b₁ ≠ b₂) :
    serializeBody b₁ ≠ serializeBody b₂ := fun h => hne (body_injective b₁ b₂ h₁ h₂ h)

/-- The processor builds the body from a chain message whose time is (seconds, nanoseconds): only whole
seconds (mod 2^32, Go's `uint32(Unix())`) enter. -/
def bodyOfMessage (sec : Nat) (_nsec : Nat) (nonce ec tc : Nat) (em : Bytes) (seq cl : Nat) (payload : Bytes) : Body :=
  { ts := sec % 256 ^ 4, nonce := nonce, emitterChain := ec, targetChain := tc, emitter := em,
    sequence := seq, consistency := cl, payload := payload }

theorem subsecond_independent (sec ns₁ ns₂ nonce ec tc : Nat) (em : Bytes) (seq cl : Nat) (p : Bytes) :
    serializeBody (bodyOfMessage sec ns₁ nonce ec tc em seq cl p) =
    serializeBody (bodyOfMessage sec ns₂ nonce ec tc em seq cl p) := rfl

/-- Non-vacuity: two concrete in-range bodies differing only in the consistency level have different signing bodies. -/
def sampleBody (cl : Nat) : Body :=
  { ts := 1700000000, nonce := 1, emitterChain := 255, targetChain := 2, emitter := List.replicate 32 7,
    sequence := 5, consistency := cl, payload := [1, 2, 3] }
example : (sampleBody 1).WF ∧ (sampleBody 2).WF ∧ serializeBody (sampleBody 1) ≠ serializeBody (sampleBody 2) := by decide +kernel

/-- Two VAAs with different (in-range) bodies never share a wire form: the body can be read back from the serialized VAA. -/
theorem wire_determines_body (v₁ v₂ : Vaa) (n₁ : v₁.sigs.length ≤ 255) (n₂ : v₂.sigs.length ≤ 255)
    (s₁ : ∀ s ∈ v₁.sigs, s.WF) (s₂ : ∀ s ∈ v₂.sigs, s.WF) (w₁ : v₁.body.WF) (w₂ : v₂.body.WF)
    (h : marshal v₁ = marshal v₂) : v₁.body = v₂.body := by
  apply body_injective _ _ w₁ w₂
  rw [← contract_body_of_wire v₁ n₁ s₁, ← contract_body_of_wire v₂ n₂ s₂, h]

/-- Non-vacuity: the empty payload and the payload `[0]` have different wire forms. -/
example : marshal ⟨1, 0, [], { sampleBody 1 with payload := [] }⟩ ≠ marshal ⟨1, 0, [], { sampleBody 1 with payload := [0] }⟩ := by decide +kernel

end Whv.C04
