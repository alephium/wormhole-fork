import Whv.Lemmas.Supervisor
/-!
# C18 — supervised services restart after failure and never run twice at once

Model: `Whv/Model/Supervisor.lean` (the processor functions of `node/pkg/supervisor` statement by statement, and
the concurrent system `Sys`/`step`: processor steps interleaved arbitrarily with runnable actions — return an
error, return nil, return a context error, panic, each after arbitrary finite latency, also after signalling
Done).  `Reach P fixed H s`: `s` is reachable from `supervisor.New` by any finite interleaving (`H` is an
assumption made at GC steps; `fun _ => True` = none).

`fixed = true` is the repaired code (fixes/C18-done-goroutine-returned.diff: `processDied` records that the
goroutine returned, the GC counts a `DONE` node as restartable only then); `fixed = false` is the pinned code.

*Partial by nature:* Go scheduling, the 1 ms ticker, back-off sleepers and channel hand-offs are this
interleaving nondeterminism; they are not verified.
-/
namespace Whv.C18
open Whv.Sup

/-- "At no time do two instances of the same service run concurrently." -/
def Mutex (s : Sys) : Prop := ∀ dn, liveCount s dn ≤ 1

/-- **Repaired code, unconditional.** In every reachable state, whatever the tree shape, failure kinds, failure
times and exit latencies, every dn has at most one running goroutine. -/
theorem c18_mutex (P : Params) {s : Sys} (h : Reach P true (fun _ => True) s) : Mutex s :=
  mutex_of_inv (h.inv fun s _ _ => doneReturned_fixed s)

/-- A reachable state of the repaired model in which a restart has happened (root failed once, its child had
signalled Done and returned late): the hypotheses of `c18_mutex` are met by a non-trivial run. -/
def exRun : List Act :=
  [.sched [], .run 0 ["c"], .sched ["c"], .sig 1 .healthy, .sig 1 .done, .ret 0 .other, .died [] .other, .gc,
   .ret 1 .nil, .died ["c"] .nil, .gc, .sched [], .run 2 ["c"], .sched ["c"]]

example : ∃ s, run {} true (init {}) exRun = some s ∧ liveCount s ["c"] = 1 ∧ liveCount s [] = 1 ∧ s.nextIid = 4 := by
  decide +kernel

/-- **Pinned code, with the hypothesis visible.** The same invariant holds on the unrepaired GC *provided* every
`DONE` node inside a subtree the GC is about to restart has already returned (`DoneReturned`: "a Done runnable
has returned before an ancestor is rescheduled").  This is the only place the two proofs differ. -/
theorem c18_mutex_partial (P : Params) {s : Sys} (h : Reach P false (DoneReturned false) s) : Mutex s :=
  mutex_of_inv (h.inv fun _ _ hD => hD)

/-- The hypothesis is satisfiable on a run with a restart: here the Done child returns (and its `died` is processed)
before the GC looks at the dead root, so `DoneReturned` holds at the GC step of the unrepaired model. -/
example : ∃ s, Reach {} false (DoneReturned false) s ∧ liveCount s ["c"] = 1 ∧ s.nextIid = 4 := by
  have h : ∃ s, runH {} false (fun s => decide (DoneReturned false s)) (init {})
      [.sched [], .run 0 ["c"], .sched ["c"], .sig 1 .healthy, .sig 1 .done, .ret 0 .other, .died [] .other,
       .ret 1 .nil, .died ["c"] .nil, .gc, .sched [], .run 2 ["c"], .sched ["c"]] = some s ∧
      liveCount s ["c"] = 1 ∧ s.nextIid = 4 := by decide +kernel
  obtain ⟨s, hs, h1, h2⟩ := h
  exact ⟨s, Reach.of_runH (fun _ hb => of_decide_eq_true hb) _ Reach.init hs, h1, h2⟩

/-- The probe of DESIGN.md §8 #15 as a run of the model: the root fails once while its child, which has signalled
Healthy and Done, is still running. -/
def witnessRun : List Act :=
  [.sched [], .run 0 ["c"], .sched ["c"], .sig 1 .healthy, .sig 1 .done, .ret 0 .other, .died [] .other, .gc,
   .sched [], .run 2 ["c"], .sched ["c"]]

/-- **Without the hypothesis the pinned code violates the property**: the run above is a run of the unrepaired
model and ends with two live instances of `root.c`. -/
theorem c18_mutex_witness : ¬ ∀ s, Reach {} false (fun _ => True) s → Mutex s := by
  intro h
  have hr : ∃ s, run {} false (init {}) witnessRun = some s ∧ liveCount s ["c"] = 2 := by decide +kernel
  obtain ⟨s, hs, h2⟩ := hr
  have h1 : liveCount s ["c"] ≤ 1 := h s (Reach.of_run _ Reach.init hs) ["c"]
  omega

/-- The witness run breaks exactly the hypothesis of `c18_mutex_partial` (at its GC step), and the repaired
model refuses that GC-restart: the same action sequence is not a run of the repaired model. -/
example : ∃ s, run {} false (init {}) (witnessRun.take 7) = some s ∧ ¬ DoneReturned false s := by
  refine ⟨_, rfl, ?_⟩
  intro h
  -- the dead root is in `can`; its child `c` is `DONE` and has not returned
  have := h (rootNode {} |> fun r => { r with state := .dead, cancelled := true, exited := true, groups := [["c"]] })
    (by decide) { dn := ["c"], state := .done, cancelled := true, exited := false, bo := 500000000, groups := [], inc := 1 }
    (by decide) (by decide) rfl
  cases this

example : run {} true (init {}) witnessRun = none := by decide +kernel

/-- On the pinned code the late `died` request of the overtaken instance can also find no node at all
(`nodeByDN` panics in the processor goroutine: the process dies), or a late `Signal` panics inside `fromContext`
with the supervisor mutex held.  Reachable state of the unrepaired model with a pending request for a missing node: -/
theorem c18_orphan_request_witness :
    ¬ ∀ s, Reach {} false (fun _ => True) s → ∀ r ∈ s.pend, ∃ n ∈ s.tree, n.dn = r.dn := by
  intro h
  have hr : ∃ s, run {} false (init {}) (witnessRun.take 8 ++ [.ret 1 .nil]) = some s ∧
      Req.died ["c"] .nil ∈ s.pend ∧ find s.tree ["c"] = none := by decide +kernel
  obtain ⟨s, hs, hp, hf⟩ := hr
  obtain ⟨n, hn, hd⟩ := h s (Reach.of_run _ Reach.init hs) _ hp
  exact find_none hf n hn hd

/-- **Repaired code:** every request the processor will ever receive, and every running goroutine, refers to a
node that exists and belongs to it (so `nodeByDN` panics neither in `processSchedule`/`processDied` nor in
`Signal`/`RunGroup`, and a `died` is never attributed to a later incarnation). -/
theorem c18_requests_find_node (P : Params) {s : Sys} (h : Reach P true (fun _ => True) s) :
    (∀ r ∈ s.pend, ∃ n ∈ s.tree, n.dn = r.dn ∧ n.exited = false) ∧
    (∀ i ∈ s.live, ∃ n ∈ s.tree, n.dn = i.dn ∧ n.exited = false) := by
  have hI := h.inv fun s _ _ => doneReturned_fixed s
  exact ⟨fun r hr => hI.tok_node r.dn (List.mem_append_right _ (List.mem_map_of_mem hr)),
    fun i hi => hI.tok_node i.dn (List.mem_append_left _ (List.mem_map_of_mem hi))⟩

example : ∃ s, run {} true (init {}) (exRun.take 9) = some s ∧ s.pend = [.died ["c"] .nil] ∧ s.live = [] := by decide +kernel

/-- **Restart.**  A node that died (`DEAD`) or was cancelled with its group (`CANCELED`) under a live parent
context, and whose whole subtree is dead / cancelled / done-and-returned, is restarted by the next GC pass: either
the node itself or an ancestor `r` is in the GC's `can` set; `r` is re-initialised (`NEW`, fresh live context,
children dropped) and its schedule request is emitted with a back-off that is zero unless `r` is `DEAD` and
never exceeds the node's current interval. -/
theorem c18_restart (P : Params) (fixed : Bool) (t : Tree) (inc : Nat) {n : Node} (hn : n ∈ t)
    (hdied : n.state = .dead ∨ n.state = .canceled) (hpar : parentLive t n.dn = true)
    (hsub : ready fixed t n.dn = true) :
    ∃ r ∈ can fixed t, under r.dn n.dn = true ∧
      (r.dn, backoffOf r) ∈ (processGC P fixed t inc).2 ∧ backoffOf r ≤ r.bo ∧
      (∃ r' ∈ (processGC P fixed t inc).1, r'.dn = r.dn ∧ r'.state = .new ∧ r'.cancelled = false ∧ r'.exited = false) ∧
      (∀ m ∈ (processGC P fixed t inc).1, above r.dn m.dn = false) := by
  have he : eligible fixed t n = true := eligible_iff.2 ⟨want_iff.2 hdied, hsub, hpar⟩
  obtain ⟨r, hr, hu⟩ := exists_can_under n.dn.length n hn (Nat.le_refl _) he
  obtain ⟨hrt, hrc⟩ := mem_can.1 hr
  refine ⟨r, hr, hu, ?_, ?_, ?_, ?_⟩
  · rw [processGC_reqs]; exact List.mem_map.2 ⟨r, hr, rfl⟩
  · exact backoffOf_le r
  · exact ⟨resetNode P t inc r, mem_gc_tree.2 ⟨r, hrt, .inl ⟨hrc, rfl⟩⟩, rfl, rfl,
      parentCancelled_of_live (inCan_parentLive hrc), rfl⟩
  · intro m hm
    refine Bool.eq_false_iff.2 fun hab => ?_
    obtain ⟨m0, hm0, ⟨hc, rfl⟩ | ⟨_, hnone, rfl⟩⟩ := mem_gc_tree.1 hm
    · -- a restarted node has no eligible proper ancestor
      have hblk : blocked fixed t m0.dn = true :=
        List.any_eq_true.2 ⟨r, hrt, Bool.and_eq_true_iff.2 ⟨hab, (inCan_iff.1 hrc).1⟩⟩
      rw [(inCan_iff.1 hc).2] at hblk
      cases hblk
    · rw [List.any_eq_true.2 ⟨r, hr, hab⟩] at hnone
      cases hnone

/-- a concrete tree: `root.a` is DEAD with back-off interval 750 ms, its child DONE-and-returned, its sibling healthy -/
def exTree : Tree :=
  [ { dn := [], state := .healthy, cancelled := false, exited := false, bo := 500000000, groups := [["a", "b"]], inc := 0 },
    { dn := ["a"], state := .dead, cancelled := true, exited := true, bo := 750000000, groups := [["x"]], inc := 1 },
    { dn := ["a", "x"], state := .done, cancelled := true, exited := true, bo := 500000000, groups := [], inc := 2 },
    { dn := ["b"], state := .canceled, cancelled := true, exited := true, bo := 500000000, groups := [], inc := 1 } ]

example : (processGC {} true exTree 7).2 = [(["a"], 750000000), (["b"], 0)] ∧
    ((processGC {} true exTree 7).1.map fun n => (n.dn, n.state, n.bo)) =
      [([], .healthy, 500000000), (["a"], .new, 1125000000), (["b"], .new, 500000000)] := by decide +kernel

example : ∃ n ∈ exTree, n.dn = ["a"] ∧ n.state = .dead ∧ parentLive exTree n.dn = true ∧ ready true exTree n.dn = true := by decide +kernel

/-- **Restart, system level**: while the processor is alive (supervisor context not cancelled) the GC step is
enabled, puts the schedule request of `r` in flight, and the processor's next `processSchedule r` starts a
goroutine for it (arbitrary latency in between = the back-off sleep). -/
theorem c18_restart_sys (P : Params) (fixed : Bool) {s : Sys} (hk : s.killed = false) {n : Node} (hn : n ∈ s.tree)
    (hdied : n.state = .dead ∨ n.state = .canceled) (hpar : parentLive s.tree n.dn = true)
    (hsub : ready fixed s.tree n.dn = true) :
    ∃ s' r, step P fixed s .gc = some s' ∧ under r n.dn = true ∧ Req.sched r ∈ s'.pend ∧
      ∃ s'', step P fixed s' (.sched r) = some s'' ∧ ∃ i ∈ s''.live, i.dn = r := by
  obtain ⟨r, hr, hu, hreq, _, ⟨r', hr', hdn', _⟩, _⟩ := c18_restart P fixed s.tree s.nextInc hn hdied hpar hsub
  let s' : Sys := { s with tree := (processGC P fixed s.tree s.nextInc).1,
                           pend := s.pend ++ (processGC P fixed s.tree s.nextInc).2.map (fun q => Req.sched q.1),
                           nextInc := s.nextInc + 1 }
  have hp : Req.sched r.dn ∈ s'.pend := List.mem_append_right _ (List.mem_map.2 ⟨_, hreq, rfl⟩)
  obtain ⟨m, hf⟩ := Option.isSome_iff_exists.1 (hdn' ▸ find_isSome_of_mem hr')
  exact ⟨s', r.dn, (Step.gc hk).to_step, hu, hp, _, (Step.sched (s := s') hk hp hf).to_step,
    ⟨s.nextIid, r.dn, m.inc⟩, List.mem_append_right _ (List.mem_singleton.2 rfl), rfl⟩

/-- the state of `exRun` just before its second GC: root is DEAD, its Done child has returned, the processor is alive -/
example : ∃ s, run {} true (init {}) (exRun.take 10) = some s ∧ s.killed = false ∧
    ∃ n ∈ s.tree, n.dn = [] ∧ n.state = .dead ∧ parentLive s.tree n.dn = true ∧ ready true s.tree n.dn = true := by decide +kernel

/-- **Bounded back-off.** In every reachable state every node's back-off interval is at most `MaxInterval`
(or the initial interval, should that be configured larger); the library randomises it by at most ±50 %. -/
theorem c18_backoff_bounded (P : Params) (fixed : Bool) {H : Sys → Prop} {s : Sys} (h : Reach P fixed H s) :
    ∀ n ∈ s.tree, n.bo ≤ max P.initial P.max ∧ backoffOf n ≤ max P.initial P.max :=
  fun n hn => ⟨h.bo n hn, Nat.le_trans (backoffOf_le n) (h.bo n hn)⟩

example : (Params.next {} 500000000, Params.next {} 45000000000, Params.next {} 60000000000) = (750000000, 60000000000, 60000000000) := by decide +kernel

/-- **"it and the members of its group are cancelled".**  When a runnable returns or panics and that is not an
expected exit (not `DONE`+nil, not a context error under a cancelled context), the node becomes `DEAD` and
marked as returned, its context and every context below it is cancelled, and so is every other member of its
supervision group with everything below; no other node changes state. -/
theorem c18_died_cancels_group {t t' : Tree} {dn : DN} {e : ErrKind} {n : Node} (hf : find t dn = some n)
    (h1 : ¬(n.state = .done ∧ e = .nil)) (h2 : ¬(n.cancelled = true ∧ e = .ctx))
    (h : processDied t dn e = .ok t') :
    (∀ m' ∈ t', m'.dn = dn → m'.state = .dead ∧ m'.exited = true) ∧
    (∀ m' ∈ t', under dn m'.dn = true → m'.cancelled = true) ∧
    (∀ name, dn.getLast? = some name → ∀ p, find t dn.dropLast = some p → ∀ sib ∈ groupOf p.groups name, sib ≠ name →
      ∀ m' ∈ t', under (dn.dropLast ++ [sib]) m'.dn = true → m'.cancelled = true) ∧
    (t'.map (·.dn) = t.map (·.dn)) := by
  obtain ⟨n', hf', st, c, hc, rfl, hdead⟩ := processDied_ok h
  cases hf.symm.trans hf'
  obtain ⟨rfl, hsub, hsib⟩ := hdead h1 h2
  refine ⟨fun m' hm' hd => ?_, fun m' hm' hu => ?_, fun name hl p hp sib hs hne m' hm' hu => ?_, ?_⟩
  · obtain ⟨m, _, rfl⟩ := List.mem_map.1 hm'
    rw [hc.dn, markFn_dn] at hd
    rw [hc.state, hc.exited, markFn_of_eq hd]
    exact ⟨rfl, rfl⟩
  · obtain ⟨m, _, rfl⟩ := List.mem_map.1 hm'
    exact hsub _ (hc.dn _ ▸ hu)
  · obtain ⟨m, _, rfl⟩ := List.mem_map.1 hm'
    exact hsib name hl p hp sib hs hne _ (hc.dn _ ▸ hu)
  · rw [List.map_map]
    exact List.map_congr_left fun m _ => (hc.dn _).trans markFn_dn

def exGroup : Tree :=
  [ { dn := [], state := .healthy, cancelled := false, exited := false, bo := 5, groups := [["a", "b"], ["c"]], inc := 0 },
    { dn := ["a"], state := .healthy, cancelled := false, exited := false, bo := 5, groups := [], inc := 1 },
    { dn := ["b"], state := .healthy, cancelled := false, exited := false, bo := 5, groups := [["y"]], inc := 1 },
    { dn := ["b", "y"], state := .new, cancelled := false, exited := false, bo := 5, groups := [], inc := 2 },
    { dn := ["c"], state := .healthy, cancelled := false, exited := false, bo := 5, groups := [], inc := 3 } ]

example : (processDied exGroup ["a"] .nil).toOption.map (fun t => t.map fun n => (n.dn, n.state, n.cancelled)) =
    some [([], .healthy, false), (["a"], .dead, true), (["b"], .healthy, true), (["b", "y"], .new, true), (["c"], .healthy, false)] := by
  decide +kernel

/-- **A service that returns with a failure is restarted.**  The return is reported (`ret`), `processDied` makes the
node `DEAD` (`died`), and once its subtree is ready under a live parent context the next GC pass and `processSchedule`
start it - or an ancestor that died too - again. -/
theorem c18_failed_restarted (P : Params) (fixed : Bool) {s : Sys} (hk : s.killed = false)
    {iid : Nat} {i : Inst} {n : Node} {e : ErrKind} (hi : s.live.find? (fun j => j.iid = iid) = some i)
    (hf : find s.tree i.dn = some n) (h1 : ¬(n.state = .done ∧ e = .nil)) (h2 : ¬(n.cancelled = true ∧ e = .ctx))
    {t' : Tree} (hd : processDied s.tree i.dn e = .ok t')
    (hpar : parentLive t' i.dn = true) (hsub : ready fixed t' i.dn = true) :
    ∃ s₂ s₃, step P fixed s (.ret iid e) = some s₂ ∧ step P fixed s₂ (.died i.dn e) = some s₃ ∧ s₃.tree = t' ∧
      ∃ s₄ r, step P fixed s₃ .gc = some s₄ ∧ under r i.dn = true ∧ Req.sched r ∈ s₄.pend ∧
        ∃ s₅, step P fixed s₄ (.sched r) = some s₅ ∧ ∃ j ∈ s₅.live, j.dn = r := by
  have hdied : Step P fixed (s.ended i e) (.died i.dn e) _ :=
    .died hk (List.mem_append_right _ (List.mem_singleton.2 rfl)) hd
  refine ⟨_, _, (Step.ret hi).to_step, hdied.to_step, rfl, ?_⟩
  -- the record of `i.dn` in `t'` is `DEAD`
  obtain ⟨hdead, -, -, hdns⟩ := c18_died_cancels_group hf h1 h2 hd
  obtain ⟨m, hm, hdn⟩ := List.mem_map.1 (hdns ▸ List.mem_map.2 ⟨n, find_some hf⟩ : i.dn ∈ t'.map (·.dn))
  obtain ⟨s₄, r, h4, hu, rest⟩ := c18_restart_sys P fixed (s := { s.ended i e with pend := _, tree := t' }) hk hm
    (.inl (hdead m hm hdn).1) (hdn ▸ hpar) (hdn ▸ hsub)
  exact ⟨s₄, r, h4, hdn ▸ hu, rest⟩

/-- **Done is left alone.**  A `DONE` node is never in the GC's restart set; unless one of its proper ancestors is
`DEAD`/`CANCELED` (a failure elsewhere in the tree that takes the whole subtree with it) the GC leaves it exactly
as it is; and its plain return (`nil`) changes nothing but the returned-mark: no state change, nothing cancelled. -/
theorem c18_done_left_alone (P : Params) (fixed : Bool) (t : Tree) (inc : Nat) {n : Node} (hn : n ∈ t) (hd : n.state = .done)
    (hanc : ∀ m ∈ t, above m.dn n.dn = true → m.state ≠ .dead ∧ m.state ≠ .canceled) :
    n ∉ can fixed t ∧ (∀ q ∈ (processGC P fixed t inc).2, q.1 ≠ n.dn ∨ ∃ m ∈ t, m ≠ n ∧ m.dn = n.dn) ∧
    n ∈ (processGC P fixed t inc).1 ∧
    (find t n.dn = some n → processDied t n.dn .nil = .ok (modify t n.dn fun m => { m with exited := true })) := by
  have hnc : inCan fixed t n = false := Bool.eq_false_iff.2 fun h => by
    rcases want_iff.1 (inCan_want h) with h | h <;> rw [hd] at h <;> cases h
  have hnone : ((can fixed t).any fun r => above r.dn n.dn) = false := Bool.eq_false_iff.2 fun hc => by
    obtain ⟨r, hr, hab⟩ := List.any_eq_true.1 hc
    have := hanc r (mem_can.1 hr).1 hab
    rcases want_iff.1 (inCan_want (mem_can.1 hr).2) with h | h
    · exact this.1 h
    · exact this.2 h
  have hnot : n ∉ can fixed t := fun h => by rw [(mem_can.1 h).2] at hnc; cases hnc
  refine ⟨hnot, ?_, ?_, ?_⟩
  · intro q hq
    rw [processGC_reqs] at hq
    obtain ⟨r, hr, rfl⟩ := List.mem_map.1 hq
    by_cases hrd : r.dn = n.dn
    · exact Or.inr ⟨r, (mem_can.1 hr).1, fun e => hnot (e ▸ hr), hrd⟩
    · exact Or.inl hrd
  · exact mem_gc_tree.2 ⟨n, hn, .inr ⟨hnc, hnone, rfl⟩⟩
  · intro hf
    unfold processDied
    rw [hf]
    exact if_pos ⟨hd, rfl⟩

example : let n : Node := { dn := ["a", "x"], state := .done, cancelled := true, exited := true, bo := 500000000, groups := [], inc := 2 }
    n ∈ exTree ∧ n ∈ (processGC {} true (exTree.map fun m => if m.dn = ["a"] then { m with state := .done } else m) 7).1 := by
  decide +kernel

/-- **Cancel stops everything, without further restarts.**  Once the processor has seen the supervisor context
cancelled (`kill`: every node's context is cancelled, the processor returns) no processor transition is enabled
any more — no `processSchedule`, no GC, no `processDied` — so along *any* continuation no goroutine is ever
started again (`nextIid` is frozen, the number of running goroutines only falls) and every context, including
those of groups started late by still-running services, stays cancelled. -/
theorem c18_cancel_stops_all (P : Params) (fixed : Bool) {s s₁ : Sys} (hkill : step P fixed s .kill = some s₁) :
    (∀ n ∈ s₁.tree, n.cancelled = true) ∧
    (∀ dn e, step P fixed s₁ (.sched dn) = none ∧ step P fixed s₁ .gc = none ∧ step P fixed s₁ (.died dn e) = none ∧
      step P fixed s₁ .kill = none) ∧
    ∀ acts s₂, run P fixed s₁ acts = some s₂ →
      s₂.killed = true ∧ s₂.nextIid = s.nextIid ∧ s₂.live.length ≤ s.live.length ∧ ∀ n ∈ s₂.tree, n.cancelled = true := by
  cases Step.of_step hkill
  have hc : ∀ n ∈ processKill s.tree, n.cancelled = true := fun n hn => by
    obtain ⟨m, _, rfl⟩ := List.mem_map.1 hn
    rfl
  exact ⟨hc, fun dn e => by simp [step], fun acts s₂ h =>
    killed_run acts (s := { s with tree := processKill s.tree, killed := true }) rfl hc h⟩

example : ∃ s, run {} true (init {}) (exRun ++ [.kill, .ret 3 .ctx, .ret 2 .ctx]) = some s ∧ s.killed = true ∧ s.live = [] ∧
    s.nextIid = 4 ∧ step {} true s (.died ["c"] .ctx) = none := by decide +kernel

/-- **Cancel reaches every running service, also below a completed one.**  "cancelling the supervisor's context
stops every service": at the `kill` step and along any continuation, *every* goroutine that is still running
holds a cancelled context — whatever the states of the nodes above it.  In particular a service whose parent (or
the root runnable itself) has signalled `DONE` and returned `nil` — the set-up-only pattern, whose node is `DONE`
with `exited = true` and whose own context is never cancelled while the supervisor lives — is reached too:
`processKill` walks the whole tree, it does not stop at nodes whose runnable has returned.  (What a service does
once its context is cancelled — its exit latency — is the service's business; the statement's "stops" is this
cancellation plus `c18_cancel_stops_all`'s "nothing is started any more".) -/
theorem c18_cancel_reaches_every_instance (P : Params) (fixed : Bool) {s s₁ : Sys} (hkill : step P fixed s .kill = some s₁) :
    ∀ acts s₂, run P fixed s₁ acts = some s₂ → ∀ i ∈ s₂.live, instCancelled s₂.tree i = true := by
  intro acts s₂ h i _
  obtain ⟨-, -, hrun⟩ := c18_cancel_stops_all P fixed hkill
  obtain ⟨-, -, -, hc⟩ := hrun acts s₂ h
  unfold instCancelled
  cases hf : find s₂.tree i.dn with
  | none => rfl
  | some n =>
    simp only
    split
    · exact hc n (find_some hf).1
    · rfl

/-- the root runnable starts `root.a`, signals Healthy and Done and returns nil (processed: the root node is `DONE`
and marked as returned, its context live); `root.a` keeps running.  The supervisor context is then cancelled. -/
def completedRootRun : List Act :=
  [.sched [], .run 0 ["a"], .sig 0 .healthy, .sig 0 .done, .sched ["a"], .sig 1 .healthy, .ret 0 .nil, .died [] .nil]

example : ∃ s, run {} true (init {}) completedRootRun = some s ∧
    (∃ n ∈ s.tree, n.dn = [] ∧ n.state = .done ∧ n.exited = true ∧ n.cancelled = false) ∧
    s.live.map (·.dn) = [["a"]] ∧ s.live.all (instCancelled s.tree) = false ∧
    ∃ s₁, step {} true s .kill = some s₁ ∧ s₁.live.map (·.dn) = [["a"]] ∧ s₁.live.all (instCancelled s₁.tree) = true := by
  decide +kernel

/-- `names` is a batch `RunGroup` has to refuse: one of its names has no character of `[a-z0-9_]`, or is already
the name of a child of the caller. -/
def Refused (t : Tree) (dn : DN) (names : List String) : Prop :=
  ∃ nm ∈ names, validName nm = false ∨ (find t (dn ++ [nm])).isSome = true

/-- **A refused batch has no effect.**  When a running service calls `RunGroup` (or `Run`) with a batch that contains
an invalid name or a name already in use under it, the call returns an error and NOTHING changes: no child node is
created for any of the other names of the batch, no group is recorded, no request is sent, nobody's context is
touched, the caller keeps running.  (The names are checked in a pass of their own before the first child is made.) -/
theorem c18_rejected_group_no_effect (P : Params) (fixed : Bool) {s s' : Sys} {iid : Nat} {i : Inst} {names : List String}
    (hi : s.live.find? (fun j => j.iid = iid) = some i) (hnode : (find s.tree i.dn).isSome = true)
    (hbad : Refused s.tree i.dn names) (h : step P fixed s (.run iid names) = some s') :
    s' = s ∧ runGroup P s.tree i.dn names s.nextInc = .ok none := by
  obtain ⟨n, hf⟩ := Option.isSome_iff_exists.1 hnode
  have hr : runGroup P s.tree i.dn names s.nextInc = .ok none := runGroup_refused hf hbad
  refine ⟨?_, hr⟩
  simp only [step, hi] at h
  split at h
  · cases h -- `names` has a duplicate: the action is not enabled
  · rw [hr] at h
    exact (Option.some.inj h).symm

/-- `root` has started `a`; then asks for the batch `{b, a, c}` (`a` is taken) and for `{b, "A-B"}` (invalid name) -/
example : ∃ s, run {} true (init {}) [.sched [], .run 0 ["a"]] = some s ∧
    Refused s.tree [] ["b", "a", "c"] ∧ Refused s.tree [] ["b", "A-B"] ∧
    step {} true s (.run 0 ["b", "a", "c"]) = some s ∧ step {} true s (.run 0 ["b", "A-B"]) = some s := by
  refine ⟨_, rfl, ⟨"a", by decide, Or.inr (by decide)⟩, ⟨"A-B", by decide, Or.inl (by decide)⟩, by decide, by decide⟩

/-- **A service that fails on a refused batch is restarted like any other.**  The caller gets the error and returns it
(`ret .other`, its own context live or not); the processor handles that exit (`processDied`: `DEAD`, its context and
its group cancelled).  The refused call has left nothing behind, so once everything the caller had started EARLIER
has stopped (`ready`) and its parent's context is live, the next GC pass puts the schedule request of the caller
(or of an ancestor that died as well) in flight and `processSchedule` starts it again — `c18_restart_sys` applies
unchanged. -/
theorem c18_rejected_caller_restarted (P : Params) (fixed : Bool) {s : Sys} (hk : s.killed = false) {iid : Nat} {i : Inst}
    {names : List String} {n : Node} (hi : s.live.find? (fun j => j.iid = iid) = some i) (hf : find s.tree i.dn = some n)
    (hnd : names.Nodup) (hbad : Refused s.tree i.dn names)
    {t' : Tree} (hd : processDied s.tree i.dn .other = .ok t')
    (hpar : parentLive t' i.dn = true) (hsub : ready fixed t' i.dn = true) :
    ∃ s₃, run P fixed s [.run iid names, .ret iid .other, .died i.dn .other] = some s₃ ∧ s₃.tree = t' ∧
      ∃ s₄ r, step P fixed s₃ .gc = some s₄ ∧ under r i.dn = true ∧ Req.sched r ∈ s₄.pend ∧
        ∃ s₅, step P fixed s₄ (.sched r) = some s₅ ∧ ∃ j ∈ s₅.live, j.dn = r := by
  obtain ⟨s₂, s₃, hret, hdied, ht, rest⟩ := c18_failed_restarted P fixed hk hi hf (by simp) (by simp) hd hpar hsub
  have hrun := (Step.refused (P := P) (fixed := fixed) hi hnd (runGroup_refused hf hbad)).to_step
  exact ⟨s₃, by simp only [run, hrun, hret, hdied], ht, rest⟩

/-- `root` starts `a`, is refused `{b, a, c}`, returns the error; `a` is cancelled and returns; the GC restarts `root` -/
example : ∃ s, run {} true (init {}) [.sched [], .run 0 ["a"], .sched ["a"], .sig 1 .healthy, .run 0 ["b", "a", "c"], .ret 0 .other,
      .died [] .other, .ret 1 .ctx, .died ["a"] .ctx] = some s ∧ s.killed = false ∧ s.tree.map (fun n => (n.dn, n.state)) = [([], .dead), (["a"], .canceled)] ∧
    parentLive s.tree [] = true ∧ ready true s.tree [] = true ∧
    ∃ s', run {} true s [.gc, .sched []] = some s' ∧ s'.live.map (·.dn) = [[]] ∧ s'.tree.map (fun n => (n.dn, n.state, n.cancelled)) = [([], .new, false)] := by
  decide +kernel

/-! ## the supervisor option `WithPropagatePanic` (the configuration `guardiand` runs)

`stepO pp` / `runO pp` (Model/Supervisor.lean) is the system whose supervisor was built with `propagatePanic = pp`:
the option is consulted in one place only, by the goroutine `processSchedule` starts, and only when a panic unwinds
the runnable.  The statement of C18 speaks of a service that "returns or panics (with panic capture on)": with the
option on a panic ends the process (`Outcome.crashed`, an explicit result) and is outside the statement; everything
the statement says about services that RETURN holds in that configuration too, because for those the two systems
are the same system. -/

/-- **A return is reported whatever the option says.**  When the runnable of a running instance returns `e` (`nil`,
a context error, any other error) the goroutine started by `processSchedule` sends `died{dn, e}` to the processor,
with `propagatePanic` on exactly as with it off: the instance is gone and the request is pending. -/
theorem c18_propagate_panic_return_reported (pp : Bool) (P : Params) (fixed : Bool) {s : Sys} {iid : Nat} {i : Inst}
    (hi : s.live.find? (fun j => j.iid = iid) = some i) (e : ErrKind) :
    stepO pp P fixed s (.act (.ret iid e)) = .next { s with live := s.live.erase i, pend := s.pend ++ [.died i.dn e] } ∧
    reportOf pp (.returned e) = .died e :=
  ⟨by simp only [stepO, hi, endInst, reportOf], rfl⟩

/-- `root` runs under `propagatePanic`, has started `a`; `a` returns an error: the `died` request is pending and the
processor's `processDied` marks `a` DEAD - with the option on and off alike -/
example : ∀ pp, ∃ s, runO pp {} true (init {}) [.act (.sched []), .act (.run 0 ["a"]), .act (.sched ["a"]), .act (.sig 1 .healthy),
      .act (.ret 1 .other)] = .next s ∧ s.pend = [.died ["a"] .other] ∧ s.live.map (·.dn) = [[]] ∧
    ∃ s', stepO pp {} true s (.act (.died ["a"] .other)) = .next s' ∧ s'.tree.map (fun n => (n.dn, n.state)) = [([], .new), (["a"], .dead)] := by
  decide +kernel

/-- **The option only matters for panics.**  (1) With the option off the configured system is the base system `step`
(a panic being the death `other`).  (2) With the option on the process ends exactly when an action makes a runnable
panic — its own code, or the `Signal` / `RunGroup` call it makes.  (3) An action that makes no runnable panic has the
same outcome under both settings, and (4) so has every sequence of such actions: for services that return — whatever
they return, whenever, in whatever order, with the processor's steps interleaved in any way — the runs of the system
with `WithPropagatePanic` are exactly the runs of `step`. -/
theorem c18_propagate_panic_returning_same (P : Params) (fixed : Bool) (s : Sys) :
    (∀ a, stepO false P fixed s a = Outcome.ofOption (step P fixed s a.toAct)) ∧
    (∀ a, stepO true P fixed s a = .crashed ↔ raises P s a = true) ∧
    (∀ pp a, raises P s a = false → stepO pp P fixed s a = Outcome.ofOption (step P fixed s a.toAct)) ∧
    (∀ pp acts, panicFree P fixed s acts = true →
      runO pp P fixed s acts = Outcome.ofOption (run P fixed s (acts.map OAct.toAct))) :=
  ⟨stepO_false P fixed s, stepO_true_crashed_iff P fixed s, fun pp a => stepO_of_not_raises pp P fixed s a,
    fun pp acts => runO_panicFree pp P fixed acts s⟩

/-- `exRun` (a failing root, a Done child returning late, the restart) contains no panic: it is a run under either
setting, ending in the same state; one panic in it, and the process ends under `WithPropagatePanic` while the panic
is a death like any other without it -/
example : panicFree {} true (init {}) (exRun.map .act) = true ∧
    (∀ pp, runO pp {} true (init {}) (exRun.map .act) = Outcome.ofOption (run {} true (init {}) exRun)) ∧
    runO true {} true (init {}) ((exRun.take 5).map .act ++ [.panic 0]) = .crashed ∧
    (∃ s, runO false {} true (init {}) ((exRun.take 5).map .act ++ [.panic 0]) = .next s ∧ s.pend = [.died [] .other]) ∧
    runO true {} true (init {}) [.act (.sched []), .act (.sig 0 .done)] = .crashed := by
  decide +kernel

/-- **Everything proved about reachable states carries over to `guardiand`'s configuration.**  A state the system
with `WithPropagatePanic` (or without) reaches while the process is alive is a reachable state of `step`; so on the
repaired code no service has two running instances (`c18_mutex`) and every pending request and every running
goroutine refers to a node that exists and is its own (`c18_requests_find_node`: the processor never panics). -/
theorem c18_propagate_panic_reach (pp : Bool) (P : Params) {acts : List OAct} {s : Sys}
    (h : runO pp P true (init P) acts = .next s) :
    Reach P true (fun _ => True) s ∧ Mutex s ∧
    (∀ r ∈ s.pend, ∃ n ∈ s.tree, n.dn = r.dn ∧ n.exited = false) ∧
    (∀ i ∈ s.live, ∃ n ∈ s.tree, n.dn = i.dn ∧ n.exited = false) := by
  have hr : Reach P true (fun _ => True) s := Reach.of_run _ Reach.init (runO_next acts h)
  exact ⟨hr, c18_mutex P hr, c18_requests_find_node P hr⟩

example : ∃ s, runO true {} true (init {}) (exRun.map .act) = .next s ∧ liveCount s ["c"] = 1 ∧ liveCount s [] = 1 := by
  decide +kernel

/-- **A service that returns is restarted under `WithPropagatePanic` as well.**  A running service returns `e` and
that is a failure (it had not signalled Done and returned nil; it is not answering a cancellation of its own
context with the context error).  Under either setting of the option: the return is reported, `processDied` makes
the node `DEAD` and cancels it, everything below it and the members of its group (`c18_died_cancels_group` speaks
about this very `t'`), and once everything below has stopped (`ready`) and the parent context is live, the next GC
pass puts the schedule request of the service (or of an ancestor that died too) in flight and `processSchedule`
starts it again. -/
theorem c18_propagate_panic_returning_restarted (pp : Bool) (P : Params) (fixed : Bool) {s : Sys} (hk : s.killed = false)
    {iid : Nat} {i : Inst} {n : Node} {e : ErrKind} (hi : s.live.find? (fun j => j.iid = iid) = some i)
    (hf : find s.tree i.dn = some n) (h1 : ¬(n.state = .done ∧ e = .nil)) (h2 : ¬(n.cancelled = true ∧ e = .ctx))
    {t' : Tree} (hd : processDied s.tree i.dn e = .ok t')
    (hpar : parentLive t' i.dn = true) (hsub : ready fixed t' i.dn = true) :
    ∃ s₃, runO pp P fixed s [.act (.ret iid e), .act (.died i.dn e)] = .next s₃ ∧ s₃.tree = t' ∧
      (∀ m ∈ t', under i.dn m.dn = true → m.cancelled = true) ∧
      ∃ s₄ r, stepO pp P fixed s₃ (.act .gc) = .next s₄ ∧ under r i.dn = true ∧ Req.sched r ∈ s₄.pend ∧
        ∃ s₅, stepO pp P fixed s₄ (.act (.sched r)) = .next s₅ ∧ ∃ j ∈ s₅.live, j.dn = r := by
  obtain ⟨s₂, s₃, hret, hdied, ht, s₄, r, h4, hu, hp, s₅, h5, hj⟩ := c18_failed_restarted P fixed hk hi hf h1 h2 hd hpar hsub
  -- the processor's steps and a plain return raise no panic: the configured system takes the same steps
  have same : ∀ (x : Sys) (a : Act) {y}, step P fixed x a = some y → raises P x (.act a) = false →
      stepO pp P fixed x (.act a) = .next y := fun x a y hs hr => by
    rw [stepO_of_not_raises pp P fixed x _ hr]
    exact Outcome.ofOption_eq_next.2 hs
  obtain ⟨-, hcanc, -, -⟩ := c18_died_cancels_group hf h1 h2 hd
  refine ⟨s₃, ?_, ht, hcanc, s₄, r, same _ _ h4 rfl, hu, hp, s₅, same _ _ h5 rfl, hj⟩
  simp only [runO, same _ _ hret rfl, same _ _ hdied rfl]

/-- under `WithPropagatePanic`: `root` starts the group `{a, b}`, all three signal Healthy -/
def ppGroupRun : List OAct :=
  [.act (.sched []), .act (.run 0 ["a", "b"]), .act (.sig 0 .healthy), .act (.sched ["a"]), .act (.sched ["b"]), .act (.sig 2 .healthy)]

/-- `a` returns nil without having signalled Done (a failure): the hypotheses of the theorem hold; `a` is DEAD, `b` -
still running - holds a cancelled context -/
example : ∃ s, runO true {} true (init {}) ppGroupRun = .next s ∧ s.killed = false ∧ s.live.find? (fun j => j.iid = 1) = some ⟨1, ["a"], 1⟩ ∧
    ∃ s₃, runO true {} true s [.act (.ret 1 .nil), .act (.died ["a"] .nil)] = .next s₃ ∧
      s₃.tree.map (fun n => (n.dn, n.state, n.cancelled)) = [([], .healthy, false), (["a"], .dead, true), (["b"], .healthy, true)] ∧
      s₃.live.map (fun j => (j.dn, instCancelled s₃.tree j)) = [([], false), (["b"], true)] ∧
      parentLive s₃.tree ["a"] = true ∧ ready true s₃.tree ["a"] = true := by
  decide +kernel

/-- `b` answers the cancellation with the context error; the GC then restarts both (`a` after its back-off, `b` at once) -/
example : ∃ s₅, runO true {} true (init {}) (ppGroupRun ++ [.act (.ret 1 .nil), .act (.died ["a"] .nil), .act (.ret 2 .ctx),
      .act (.died ["b"] .ctx), .act .gc, .act (.sched ["a"]), .act (.sched ["b"])]) = .next s₅ ∧
    s₅.live.map (·.dn) = [[], ["a"], ["b"]] ∧
    s₅.tree.map (fun n => (n.dn, n.state, n.cancelled)) = [([], .healthy, false), (["a"], .new, false), (["b"], .new, false)] := by
  decide +kernel

end Whv.C18
