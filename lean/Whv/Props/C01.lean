import Whv.Lemmas.ProcC01
import Whv.Props.C07
/-!
# C01 — only quorum-signed, verifiable VAAs are ever stored or broadcast

Model: `Whv.Proc.step` / `run` (`Whv/Model/Processor.lean`). "Learned from chain" = delivered by a guardian-set
update event (`learnAll`). Hypotheses on the environment (`EventOk`): sets delivered by the chain watcher have
distinct keys and at most 256 of them; injected VAAs come from the governance emitter (the only thing the admin RPC
injects). Crypto is an arbitrary `Oracle`.
-/
namespace Whv.C01
open Whv Whv.Proc

/-- What the statement demands, unfolded through `C06.verify_iff`: every signature recovers — over the VAA's own
digest — to the key at the index it claims, indices lie inside the set and strictly ascend (hence distinct members),
and there are at least `quorum` of them. -/
theorem good_unfold (O : Oracle) (g : GSet) (v : Vaa) (h : Good O g v) :
    (∀ s ∈ v.sigs, s.idx < g.keys.length ∧ O.recover (O.digestOf v.body) s.sig = g.keys[s.idx]?) ∧
    v.sigs.Pairwise (fun a b => a.idx < b.idx) ∧
    quorum g.keys.length ≤ v.sigs.length ∧ v.sigs.length ≤ g.keys.length := by
  have hv := (C06.verify_iff _ _ _).1 h.1
  exact ⟨hv.1, hv.2.1, h.2, C06.accepted_length_le _ _ _ h.1⟩

/-- **Broadcast.** In every run from the initial state — any interleaving of local observations, loopbacks, gossiped
observations (valid, forged, duplicated, by non-members, over other digests), inbound signed VAAs, injections,
guardian-set updates and cleanup ticks — every `SignedVAAWithQuorum` the node broadcasts is the encoding of a VAA that
is `Good` for a guardian set learned from chain. -/
theorem broadcast_good (O : Oracle) (cfg : Config) (es : List Event) (hev : ∀ e ∈ es, EventOk cfg e)
    (sf : PState) (outs : List (List Out)) (hr : run O cfg {} es = .ok (sf, outs)) :
    ∀ os ∈ outs, ∀ b, Out.vaa b ∈ os → ∃ v g, b = marshal v ∧ g ∈ learnAll [] es ∧ Good O g v :=
  (run_inv1 es [] {} (fun _ => nofun) (inv1_init O cfg) hev sf outs hr).2

/-- **Store.** After every run, every entry of the store is the encoding of a `Good` VAA filed under its own id. -/
theorem store_good (O : Oracle) (cfg : Config) (es : List Event) (hev : ∀ e ∈ es, EventOk cfg e)
    (sf : PState) (outs : List (List Out)) (hr : run O cfg {} es = .ok (sf, outs)) :
    ∀ p ∈ sf.db, ∃ v g, p.2 = marshal v ∧ p.1 = v.body.id ∧ g ∈ learnAll [] es ∧ Good O g v :=
  (run_inv1 es [] {} (fun _ => nofun) (inv1_init O cfg) hev sf outs hr).1.db

/-- **Assembled VAAs**: what the node publishes from its own observation is `Good` for the set *in force when it
observed the message* (the entry's snapshot), carries exactly the observed body, names that set (chain messages), and
is what gets stored. Stated for any state satisfying the invariant, i.e. any reachable state. -/
theorem assembled_uses_observation_set (O : Oracle) (cfg : Config) (L : List GSet) (hL : ∀ g ∈ L, GSetOk g)
    (s : PState) (h : Inv1 O cfg L s) (o : Obs) (now : Int) (s' : PState) (outs : List Out)
    (hr : step O cfg s (.observation o now) = .ok s' outs) :
    ∀ b, Out.vaa b ∈ outs → ∃ v g, b = marshal v ∧ g ∈ L ∧ Good O g v ∧
      (∃ st, s.agg.lookup o.hash = some st ∧ st.gs = some g ∧ ∃ v0, st.ourVAA = some v0 ∧ v.body = v0.body) ∧
      (¬ isGov cfg v.body → v.gsIndex = g.index) ∧ s'.db = alInsert v.body.id b s.db :=
  (handleObservation_inv1 hL h o now hr).2

/-- **Peers and backfill**: an inbound VAA is stored only if it is `Good` for the node's *current* set, an already
stored VAA is never replaced by a peer's copy, and nothing is broadcast. -/
theorem inbound_current_set_no_overwrite (O : Oracle) (cfg : Config) (L : List GSet) (s : PState) (h : Inv1 O cfg L s)
    (bytes : Bytes) (s' : PState) (outs : List Out) (hr : step O cfg s (.inbound bytes) = .ok s' outs) :
    outs = [] ∧ (∀ id b, s.db.lookup id = some b → s'.db.lookup id = some b) ∧
    (s'.db = s.db ∨ ∃ v g, unmarshal bytes = some v ∧ s.gs = some g ∧ Good O g v ∧
        s.db.lookup v.body.id = none ∧ s'.db = alInsert v.body.id (marshal v) s.db) :=
  (handleInbound_inv1 h bytes hr).2

/-- Only observations and inbound VAAs ever write the store: every other event leaves it untouched. -/
theorem other_events_leave_store (O : Oracle) (cfg : Config) (s : PState) (now : Int) (room : Nat) (g : GSet)
    (s' : PState) (outs : List Out) :
    (step O cfg s (.cleanup now room) = .ok s' outs → s'.db = s.db) ∧
    (step O cfg s (.setUpdate g) = .ok s' outs → s'.db = s.db) :=
  ⟨fun hr => step_db_eq_of_not_observation_of_not_inbound hr nofun nofun,
   fun hr => step_db_eq_of_not_observation_of_not_inbound hr nofun nofun⟩

/-- **End to end with C04–C07**: what the node publishes passes the signature section of both contracts' verification
(`Whv/Model/Contract.lean`) for the guardian set it was completed for — the quorum formulas being the ones translated from
the Solidity and Ralph sources on this run. Together with `C04.contract_digest_eq` (the contracts hash exactly the signing
body out of the wire form) and `C05.decode_encode` (the wire form carries the VAA unaltered) this is "a VAA the node considers
complete is accepted on chain". -/
theorem published_accepted_on_chain (O : Oracle) (g : GSet) (v : Vaa) (h : Good O g v) (hne : g.keys.length ≠ 0) :
    Whv.Contract.ralAccepts Whv.Gen.C07.ralQuorum (O.recover (O.digestOf v.body)) v.sigs g.keys = true ∧
    Whv.Contract.solAccepts Whv.Gen.C07.solQuorum (O.recover (O.digestOf v.body)) v.sigs g.keys = true := by
  apply Whv.C07.node_complete_accepted_on_chain _ _ _ hne h.1
  rw [Whv.C07.go_quorum_eq]
  exact h.2

/-- The precondition on guardian sets is needed: with a repeated key the node would assemble a list that
verification rejects (the same signer counted at two indices). -/
theorem repeated_key_breaks_assembly :
    let rec1 : Bytes → Option Addr := fun s => if s = [9] then some [0xA] else none
    verifySignatures rec1 (assemble [[0xA], [0xA]] [([0xA], [9])]) [[0xA], [0xA]] = false := by decide

/-- Non-vacuity: a set with distinct keys satisfies `GSetOk`, and three of four signatures, recorded out of order, assemble into a verifiable quorum. -/
example : GSetOk { index := 1, keys := [[1], [2], [3]] } := ⟨by decide, by decide⟩

example :
    let rec4 : Bytes → Option Addr := fun s => match s with | [10] => some [1] | [30] => some [3] | [40] => some [4] | _ => none
    verifySignatures rec4 (assemble [[1], [2], [3], [4]] [([3], [30]), ([4], [40]), ([1], [10])]) [[1], [2], [3], [4]] = true ∧
    quorum 4 ≤ (assemble [[1], [2], [3], [4]] [([3], [30]), ([4], [40]), ([1], [10])]).length := by decide +kernel

end Whv.C01
