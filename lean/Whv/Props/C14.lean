import Whv.Lemmas.Processor
import Whv.Gen.Proc
/-!
# C14 — pending attestations are retried, then expired, on a bounded schedule

Model: `Whv.Proc.cleanupEntry` (one iteration of the loop in `handleCleanup`, cleanup.go) with times in integer
nanoseconds; thresholds `settlementTime` (30 s), `fiveMinutes`, `retryTime` (5 min), `oneHour`, `maxRetries` (14400).
`pgs` is the node's current guardian set (known whenever an entry exists, by the C13 invariant), `db` the store.
A *pending* entry is one the node has signed (`ourMsg`), that lacks quorum (`¬submitted`), whose quorum VAA is not in
the store, and whose retry budget is not spent.
-/
namespace Whv.C14
open Whv Whv.Proc

/-- The message's quorum VAA is not in the store. -/
def NotStored (db : List (VaaId × Bytes)) (st : VState) : Prop :=
  ∀ v, st.ourVAA = some v → db.lookup v.body.id = none

structure Pending (db : List (VaaId × Bytes)) (st : VState) : Prop where
  signed : ∃ o, st.ourMsg = some o
  ours : ∃ v, st.ourVAA = some v
  unsubmitted : st.submitted = false
  notStored : NotStored db st
  budget : st.retryCount < maxRetries

private theorem not_late {db : List (VaaId × Bytes)} {st : VState} (h : NotStored db st) (now : Int) :
    isLate db now st = false := by
  unfold isLate
  split
  · next v hv => rw [h v hv, Option.isSome_none, Bool.and_false]
  · rfl

private theorem not_late_submitted {db : List (VaaId × Bytes)} {st : VState} (h : st.submitted = true) (now : Int) :
    isLate db now st = false := by
  unfold isLate
  split
  · simp [h]
  · rfl

private theorem not_exhausted {db : List (VaaId × Bytes)} {st : VState} (h : Pending db st) :
    ¬ (st.submitted = false ∧ exhausted st = true) := by
  obtain ⟨o, ho⟩ := h.signed
  have := h.budget
  unfold exhausted
  simp [ho]
  omega

private theorem budget_left {st : VState} {o : Obs} (ho : st.ourMsg = some o) (h : exhausted st = false) :
    st.retryCount < maxRetries := by
  simpa [exhausted, ho] using h

/-- The settle rule and the one-hour rule of `cleanupEntry` do not fire, in the form `rw [if_neg _]` takes. The theorems about one
entry below evaluate the rule ladder under their hypotheses; the characterisations of Lemmas/Processor go the other way (from a
result to the rule that gave it). -/
private theorem not_unsettled {now : Int} {st : VState} (h : st.settled = true) :
    ¬ (st.settled = false ∧ now - st.firstObserved > settlementTime) := by rw [h]; simp

private theorem not_submitted_hour {now : Int} {st : VState} (h : st.submitted = false) :
    ¬ (st.submitted = true ∧ now - st.firstObserved ≥ oneHour) := by rw [h]; simp

/-- **No early discard.** A pending entry is never deleted by a cleanup tick, whatever the time, the queue fill and
the stall since the previous tick; it stays pending unless this tick spent the last retry. -/
theorem no_early_discard (g : GSet) (db : List (VaaId × Bytes)) (now : Int) (room : Bool) (st : VState)
    (h : Pending db st) :
    ∃ st' outs, cleanupEntry (some g) db now room st = .keep st' outs ∧
      st'.ourMsg = st.ourMsg ∧ st'.ourVAA = st.ourVAA ∧ st'.submitted = false ∧ st'.signatures = st.signatures := by
  obtain ⟨o, ho⟩ := h.signed
  obtain ⟨v, hv⟩ := h.ours
  unfold cleanupEntry
  rw [if_neg (ne_true_of_eq_false (not_late h.notStored now))]
  by_cases h2 : st.settled = false ∧ now - st.firstObserved > settlementTime
  · rw [if_pos h2, settleAct_some]
    exact ⟨_, _, rfl, rfl, rfl, h.unsubmitted, rfl⟩
  · rw [if_neg h2, if_neg (not_submitted_hour h.unsubmitted), if_neg (not_exhausted h)]
    by_cases h5 : st.submitted = false ∧ now - st.firstObserved ≥ fiveMinutes ∧ retryDue now st.lastRetry = true
    · rw [if_pos h5]
      unfold retryAct
      rw [ho, hv]
      exact ⟨_, _, rfl, ho.symm ▸ rfl, hv.symm ▸ rfl, h.unsubmitted, rfl⟩
    · rw [if_neg h5]
      exact ⟨_, _, rfl, rfl, rfl, h.unsubmitted, rfl⟩

/-- **Retry when due.** A settled pending entry that is at least five minutes old and whose last retry lies at least
`retryTime` back (or that was never retried) is retried by this tick: the own observation is re-broadcast, a
re-observation request for the originating transaction on the emitter chain is issued (if the request queue has room),
the retry counter goes up by one and the retry time is recorded. -/
theorem retry_when_due (g : GSet) (db : List (VaaId × Bytes)) (now : Int) (room : Bool) (st : VState)
    (h : Pending db st) (hset : st.settled = true) (hage : now - st.firstObserved ≥ fiveMinutes)
    (hdue : retryDue now st.lastRetry = true) :
    ∃ o v, st.ourMsg = some o ∧ st.ourVAA = some v ∧
      cleanupEntry (some g) db now room st =
        .keep { st with retryCount := st.retryCount + 1, lastRetry := some now }
          ((if room then [Out.obsReq v.body.emitterChain st.txHash] else []) ++ [Out.obs o]) := by
  obtain ⟨o, ho⟩ := h.signed
  obtain ⟨v, hv⟩ := h.ours
  refine ⟨o, v, ho, hv, ?_⟩
  unfold cleanupEntry
  rw [if_neg (ne_true_of_eq_false (not_late h.notStored now)), if_neg (not_unsettled hset),
    if_neg (not_submitted_hour h.unsubmitted), if_neg (not_exhausted h), if_pos ⟨h.unsubmitted, hage, hdue⟩]
  unfold retryAct
  rw [ho, hv]

/-- **No retry before its time.** If the last retry is less than `retryTime` back (or the entry is younger than five
minutes) a settled pending entry is left exactly as it is and nothing is sent. -/
theorem no_retry_before_due (g : GSet) (db : List (VaaId × Bytes)) (now : Int) (room : Bool) (st : VState)
    (h : Pending db st) (hset : st.settled = true)
    (hnot : now - st.firstObserved < fiveMinutes ∨ retryDue now st.lastRetry = false) :
    cleanupEntry (some g) db now room st = .keep st [] := by
  unfold cleanupEntry
  rw [if_neg (ne_true_of_eq_false (not_late h.notStored now)), if_neg (not_unsettled hset),
    if_neg (not_submitted_hour h.unsubmitted), if_neg (not_exhausted h), if_neg]
  -- left to show: the retry rule does not fire
  intro ⟨_, h1, h2⟩
  rcases hnot with h3 | h3
  · omega
  · rw [h2] at h3; cases h3

private theorem retryDue_false_of_lt {t now : Int} (h : now - t < retryTime) : retryDue now (some t) = false := by
  unfold retryDue
  simp only [decide_eq_false_iff_not]
  omega

/-- Consecutive retries are at least `retryTime` apart: right after a retry at `t`, no tick before `t + retryTime` retries. -/
theorem retries_spaced (g : GSet) (db : List (VaaId × Bytes)) (t now : Int) (room : Bool) (st : VState)
    (h : Pending db st) (hset : st.settled = true) (hl : st.lastRetry = some t) (hlt : now - t < retryTime) :
    cleanupEntry (some g) db now room st = .keep st [] := by
  apply no_retry_before_due g db now room st h hset
  right
  rw [hl]
  exact retryDue_false_of_lt hlt

/-- … and with ticks at most `T` apart the next retry comes no later than `retryTime + T` after the previous one:
the first tick at or after `t + retryTime` is due (for an entry that is five minutes old). -/
theorem retry_due_after_period (t now : Int) (hge : now - t ≥ retryTime) : retryDue now (some t) = true := by
  simpa [retryDue] using hge

/-- The settle step: an unsettled entry older than the settlement time is only marked settled by this tick (nothing is
sent, nothing is deleted) — unless its quorum VAA is already stored. -/
theorem settle_first (g : GSet) (db : List (VaaId × Bytes)) (now : Int) (room : Bool) (st : VState)
    (hnl : isLate db now st = false) (hset : st.settled = false) (hage : now - st.firstObserved > settlementTime) :
    cleanupEntry (some g) db now room st = .keep { st with settled := true } [] := by
  unfold cleanupEntry
  rw [if_neg (ne_true_of_eq_false hnl), if_pos ⟨hset, hage⟩, settleAct_some]

/-- **A stored quorum VAA releases the entry**: a pending-looking entry whose VAA is already in the store is dropped
once it is older than the settlement time (the one case in which an unsubmitted signed entry may go early). -/
theorem late_entry_dropped (pgs : Option GSet) (db : List (VaaId × Bytes)) (now : Int) (room : Bool) (st : VState) (v : Vaa) (b : Bytes)
    (hv : st.ourVAA = some v) (hsub : st.submitted = false) (hage : now - st.firstObserved > settlementTime)
    (hst : db.lookup v.body.id = some b) : cleanupEntry pgs db now room st = .delete := by
  unfold cleanupEntry
  have : isLate db now st = true := by
    unfold isLate
    rw [hv]
    simp [hsub, hage, hst]
  rw [if_pos this]

/-- **Signatures for a message the node never observed** go after about five minutes: a settled such entry that is
five minutes old is deleted by this tick … -/
theorem unobserved_expires (g : GSet) (db : List (VaaId × Bytes)) (now : Int) (room : Bool) (st : VState)
    (hno : st.ourVAA = none) (hnm : st.ourMsg = none) (hsub : st.submitted = false) (hlr : st.lastRetry = none)
    (hset : st.settled = true) (hage : now - st.firstObserved ≥ fiveMinutes) :
    cleanupEntry (some g) db now room st = .delete := by
  unfold cleanupEntry
  have hl : isLate db now st = false := by unfold isLate; rw [hno]
  -- deleted by the budget rule, or else by the retry rule (`retryAct` without `ourMsg`)
  by_cases h4 : st.submitted = false ∧ exhausted st = true
  · rw [if_neg (ne_true_of_eq_false hl), if_neg (not_unsettled hset), if_neg (not_submitted_hour hsub), if_pos h4]
  · rw [if_neg (ne_true_of_eq_false hl), if_neg (not_unsettled hset), if_neg (not_submitted_hour hsub), if_neg h4,
      if_pos ⟨hsub, hage, by rw [hlr]; rfl⟩]
    unfold retryAct
    rw [hnm]

/-- … and an unsettled one is settled by the first such tick and deleted by the second: at most two ticks after age
five minutes. -/
theorem unobserved_expires_two_ticks (g : GSet) (db : List (VaaId × Bytes)) (now₁ now₂ : Int) (r₁ r₂ : Bool) (st : VState)
    (hno : st.ourVAA = none) (hnm : st.ourMsg = none) (hsub : st.submitted = false) (hlr : st.lastRetry = none)
    (hage : now₁ - st.firstObserved ≥ fiveMinutes) (hle : now₁ ≤ now₂) :
    cleanupEntry (some g) db now₁ r₁ st = .delete ∨
    ∃ st', cleanupEntry (some g) db now₁ r₁ st = .keep st' [] ∧ cleanupEntry (some g) db now₂ r₂ st' = .delete := by
  cases hset : st.settled with
  | true => exact Or.inl (unobserved_expires g db now₁ r₁ st hno hnm hsub hlr hset hage)
  | false =>
    right
    have hl : isLate db now₁ st = false := by unfold isLate; rw [hno]
    have h5 : fiveMinutes > settlementTime := by decide
    refine ⟨{ st with settled := true }, settle_first g db now₁ r₁ st hl hset (by omega), ?_⟩
    exact unobserved_expires g db now₂ r₂ _ hno hnm hsub hlr rfl (by simp only; omega)

/-- **Completed entries** go after about an hour: a settled submitted entry that is an hour old is deleted. -/
theorem submitted_expires (pgs : Option GSet) (db : List (VaaId × Bytes)) (now : Int) (room : Bool) (st : VState)
    (hsub : st.submitted = true) (hset : st.settled = true) (hage : now - st.firstObserved ≥ oneHour) :
    cleanupEntry pgs db now room st = .delete := by
  unfold cleanupEntry
  rw [if_neg (ne_true_of_eq_false (not_late_submitted hsub now)), if_neg (not_unsettled hset), if_pos ⟨hsub, hage⟩]

/-- A submitted entry is kept (only possibly settled) until then: late observations still find their context. -/
theorem submitted_kept_before_hour (g : GSet) (db : List (VaaId × Bytes)) (now : Int) (room : Bool) (st : VState)
    (hsub : st.submitted = true) (hage : now - st.firstObserved < oneHour) :
    ∃ st', cleanupEntry (some g) db now room st = .keep st' [] ∧ st'.submitted = true := by
  unfold cleanupEntry
  rw [if_neg (ne_true_of_eq_false (not_late_submitted hsub now))]
  by_cases h2 : st.settled = false ∧ now - st.firstObserved > settlementTime
  · rw [if_pos h2, settleAct_some]
    exact ⟨_, rfl, hsub⟩
  · -- not an hour old; the budget rule and the retry rule are for unsubmitted entries
    rw [if_neg h2, if_neg (by intro ⟨_, h⟩; omega), if_neg (by rw [hsub]; simp), if_neg (by rw [hsub]; simp)]
    exact ⟨_, rfl, hsub⟩

/-- **The retry budget is finite**: once it is spent the entry is deleted, and every due tick spends one unit
(`retry_when_due`), so the variant `maxRetries - retryCount` strictly decreases along due ticks: no pending entry lives
forever while ticks continue. -/
theorem exhausted_expires (pgs : Option GSet) (db : List (VaaId × Bytes)) (now : Int) (room : Bool) (st : VState)
    (hnl : isLate db now st = false) (hsub : st.submitted = false) (hset : st.settled = true)
    (hex : (∃ o, st.ourMsg = some o) ∧ st.retryCount ≥ maxRetries) :
    cleanupEntry pgs db now room st = .delete := by
  obtain ⟨⟨o, ho⟩, hc⟩ := hex
  unfold cleanupEntry
  have : exhausted st = true := by unfold exhausted; simp [ho, hc]
  rw [if_neg (ne_true_of_eq_false hnl), if_neg (not_unsettled hset), if_neg (not_submitted_hour hsub), if_pos ⟨hsub, this⟩]

theorem retry_decreases_variant (g : GSet) (db : List (VaaId × Bytes)) (now : Int) (room : Bool) (st : VState)
    (h : Pending db st) (hset : st.settled = true) (hage : now - st.firstObserved ≥ fiveMinutes)
    (hdue : retryDue now st.lastRetry = true) :
    ∃ st' outs, cleanupEntry (some g) db now room st = .keep st' outs ∧
      maxRetries - st'.retryCount < maxRetries - st.retryCount := by
  obtain ⟨o, v, _, _, he⟩ := retry_when_due g db now room st h hset hage hdue
  refine ⟨_, _, he, ?_⟩
  have := h.budget
  simp only
  omega

/-- The state a tick leaves behind does not depend on the request queue: a full queue only loses the request. -/
theorem queue_full_only_drops_request (g : GSet) (db : List (VaaId × Bytes)) (now : Int) (st : VState)
    (h : Pending db st) (hset : st.settled = true) (hage : now - st.firstObserved ≥ fiveMinutes)
    (hdue : retryDue now st.lastRetry = true) :
    ∃ o st', cleanupEntry (some g) db now false st = .keep st' [Out.obs o] ∧
      ∃ r, cleanupEntry (some g) db now true st = .keep st' [r, Out.obs o] := by
  obtain ⟨o, v, ho, _, he⟩ := retry_when_due g db now false st h hset hage hdue
  obtain ⟨o', v', ho', _, he'⟩ := retry_when_due g db now true st h hset hage hdue
  cases ho.symm.trans ho'
  exact ⟨o, _, by simpa using he, Out.obsReq v'.body.emitterChain st.txHash, by simpa using he'⟩

/-- Whether an entry is kept, and the state it is left in, do not depend on the request queue. -/
theorem room_irrelevant (pgs : Option GSet) (db : List (VaaId × Bytes)) (now : Int) (st : VState) :
    (cleanupEntry pgs db now true st = .delete ↔ cleanupEntry pgs db now false st = .delete) ∧
    (∀ st' o, cleanupEntry pgs db now true st = .keep st' o → ∃ o', cleanupEntry pgs db now false st = .keep st' o') ∧
    (∀ st' o, cleanupEntry pgs db now false st = .keep st' o → ∃ o', cleanupEntry pgs db now true st = .keep st' o') :=
  ⟨⟨(cleanupEntry_room pgs db now st true false).1, (cleanupEntry_room pgs db now st false true).1⟩,
   (cleanupEntry_room pgs db now st true false).2, (cleanupEntry_room pgs db now st false true).2⟩

/-- **Lifted to the whole tick** (`handleCleanup`): an entry survives a tick exactly in the state `cleanupEntry` leaves
it in; every entry present after the tick is such a survivor; the store is untouched. Together with the entry-level
theorems above this gives the schedule for every reachable aggregation state and every tick sequence. -/
theorem tick_effect (s s' : PState) (now : Int) (room : Nat) (outs : List Out)
    (h : handleCleanup s now room = .ok s' outs) :
    (∀ d st st' r o, (d, st) ∈ s.agg → cleanupEntry s.gs s.db now r st = .keep st' o → (d, st') ∈ s'.agg) ∧
    (∀ d st', (d, st') ∈ s'.agg → ∃ st r o, (d, st) ∈ s.agg ∧ cleanupEntry s.gs s.db now r st = .keep st' o) ∧
    s'.db = s.db ∧ s'.gs = s.gs := by
  obtain ⟨agg', hc, rfl⟩ := handleCleanup_ok_iff.1 h
  refine ⟨cleanupAll_keeps hc, fun d st' hm => ?_, rfl, rfl⟩
  exact (cleanupAll_lift (P := fun d st' => ∃ st r o, (d, st) ∈ s.agg ∧ cleanupEntry s.gs s.db now r st = .keep st' o)
    (Q := fun _ => True) (fun d st r st' o hm hk => ⟨⟨st, r, o, hm, hk⟩, fun _ _ => trivial⟩) hc).1 _ hm

/-- **However large the map.** A pending entry survives a whole cleanup tick in any aggregation state that contains it —
there is no bound on the number of other entries (a flood of 10 000 digests this node never observed changes nothing for the
node's own pending message), and the entry after the tick is still the node's own, unsubmitted, with its signatures. This is the
model-level counterpart of the scale family of the processor harness (whose flood the driver does not replay). -/
theorem pending_survives_tick_in_any_state (s s' : PState) (g : GSet) (hg : s.gs = some g) (now : Int) (room : Nat) (outs : List Out)
    (h : handleCleanup s now room = .ok s' outs) (d : Bytes) (st : VState) (hm : (d, st) ∈ s.agg) (hp : Pending s.db st)
    (r : Bool) :
    ∃ st', (d, st') ∈ s'.agg ∧ st'.ourMsg = st.ourMsg ∧ st'.ourVAA = st.ourVAA ∧ st'.submitted = false ∧
      st'.signatures = st.signatures := by
  obtain ⟨st', o, hk, h1, h2, h3, h4⟩ := no_early_discard g s.db now r st hp
  have := (tick_effect s s' now room outs h).1 d st st' r o hm (by rw [hg]; exact hk)
  exact ⟨st', this, h1, h2, h3, h4⟩

/-- An entry followed through a sequence of ticks (times and queue states arbitrary): `none` once it has been deleted — or once a
tick panicked (`tick_no_panic`). Set and store are held fixed over the sequence; the bounds below do not depend on them. -/
def runTicks (g : GSet) (db : List (VaaId × Bytes)) : VState → List (Int × Bool) → Option VState
  | st, [] => some st
  | st, (now, room) :: rest =>
    match cleanupEntry (some g) db now room st with
    | .keep st' _ => runTicks g db st' rest
    | _ => none

private theorem keep_retry_le {g : GSet} {db : List (VaaId × Bytes)} {now : Int} {room : Bool} {st st' : VState} {o : List Out}
    (h : cleanupEntry (some g) db now room st = .keep st' o) (hb : st.retryCount ≤ maxRetries) :
    st'.retryCount ≤ maxRetries ∧ st.retryCount ≤ st'.retryCount ∧ st'.firstObserved = st.firstObserved := by
  rcases cleanupEntry_keep_cases h with ⟨_, _, rfl, _⟩ | ⟨ob, v, ho, _, _, hex, _, _, rfl, _⟩ | ⟨_, _, _, rfl, _⟩
  · exact ⟨hb, Nat.le_refl _, rfl⟩  -- settled
  · exact ⟨budget_left ho hex, Nat.le_succ _, rfl⟩  -- retried
  · exact ⟨hb, Nat.le_refl _, rfl⟩  -- left alone

/-- **The retry budget is never exceeded**, whatever the tick sequence (stalls, bursts, full queues): along every run of
ticks the retry counter stays within `maxRetries`, never decreases, and the first-seen time is never touched — so the age
only grows and an entry at its budget is deleted by the next tick that considers it (`exhausted_expires`). -/
theorem retry_budget_invariant (g : GSet) (db : List (VaaId × Bytes)) :
    ∀ (ticks : List (Int × Bool)) (st st' : VState), st.retryCount ≤ maxRetries → runTicks g db st ticks = some st' →
      st'.retryCount ≤ maxRetries ∧ st.retryCount ≤ st'.retryCount ∧ st'.firstObserved = st.firstObserved := by
  intro ticks
  induction ticks with
  | nil =>
    intro st st' hb h
    cases h
    exact ⟨hb, Nat.le_refl _, rfl⟩
  | cons t rest ih =>
    intro st st' hb h
    obtain ⟨now, room⟩ := t
    unfold runTicks at h
    split at h
    · next st1 o hk =>  -- the tick keeps the entry
      obtain ⟨a, b, c⟩ := keep_retry_le hk hb
      obtain ⟨a', b', c'⟩ := ih st1 st' a h
      exact ⟨a', Nat.le_trans b b', c'.trans c⟩
    · cases h

/-- The thresholds of the model are the ones in cleanup.go / processor.go (re-extracted on every run), and they are the
statement's: retries about every five minutes, unobserved entries about five minutes, completed entries about an hour, a
14 400-retry budget (120 hours), a 30-second settlement time and a 30-second cleanup ticker; the four `case` conditions of the
switch are textually the ones modelled. -/
theorem thresholds_as_modelled :
    (Whv.Gen.Proc.settlementTime : Int) = settlementTime ∧ (Whv.Gen.Proc.retryTime : Int) = retryTime ∧
    Whv.Gen.Proc.maxRetries = maxRetries ∧ Whv.Gen.Proc.nilRetries = 10 ∧
    retryTime = 5 * 60 * 1000000000 ∧ fiveMinutes = 5 * 60 * 1000000000 ∧ oneHour = 60 * 60 * 1000000000 ∧
    Whv.Gen.Proc.cleanupTickNs = 30 * 1000000000 ∧
    Whv.Gen.Proc.hourRule = 1 ∧ Whv.Gen.Proc.fiveMinRule = 1 ∧ Whv.Gen.Proc.settleRule = 1 ∧ Whv.Gen.Proc.lateRule = 1 := by
  decide

/-- With the 30-second ticker a due retry is at most 30 s late, so consecutive retries are between 5 min and 5 min 30 s apart
(`retries_spaced` + `retry_due_after_period` with `T` = the extracted tick). -/
theorem retry_period_bounds (t : Int) :
    (∀ now, now - t < retryTime → retryDue now (some t) = false) ∧
    (∀ now, now - t ≥ retryTime → retryDue now (some t) = true) ∧
    retryTime + (Whv.Gen.Proc.cleanupTickNs : Int) = (5 * 60 + 30) * 1000000000 :=
  ⟨fun _ => retryDue_false_of_lt, retry_due_after_period t, by decide⟩

/-- Non-vacuity: a concrete pending entry, five minutes old, never retried — retried by the tick. -/
def sampleVaa : Vaa :=
  { version := 1, gsIndex := 0, sigs := [],
    body := { ts := 0, nonce := 0, emitterChain := 2, targetChain := 255, emitter := [], sequence := 7, consistency := 1,
              payload := [1] } }

def sampleObs : Obs := { addr := [1], hash := [2], sig := [3], txHash := [4] }

def sampleEntry : VState :=
  { firstObserved := 0, settled := true, ourVAA := some sampleVaa, ourMsg := some sampleObs, txHash := [4] }

theorem sample_pending : Pending [] sampleEntry :=
  ⟨⟨sampleObs, rfl⟩, ⟨sampleVaa, rfl⟩, rfl, fun _ _ => rfl, by decide⟩

theorem sample_retried : ∃ st' outs, cleanupEntry (some ⟨0, []⟩) [] fiveMinutes true sampleEntry = .keep st' outs ∧
    st'.retryCount = 1 ∧ outs = [Out.obsReq 2 [4], Out.obs sampleObs] := by
  obtain ⟨o, v, ho, hv, he⟩ := retry_when_due ⟨0, []⟩ [] fiveMinutes true sampleEntry sample_pending rfl (by decide) rfl
  cases ho; cases hv
  exact ⟨_, _, he, rfl, rfl⟩

/-- Remaining work of an entry: one settle step plus the unspent retries. -/
def mu (st : VState) : Nat := (if st.settled then 0 else 1) + (maxRetries - st.retryCount)

/-- From this time on every tick acts on the entry (settles, retries or deletes it): one hour after it was first seen covers both
the one-hour rule for submitted and the five-minute rule for unsubmitted entries (`idle_before_due`). -/
def dueAt (st : VState) : Int :=
  match st.lastRetry with
  | none => st.firstObserved + oneHour
  | some lr => max (st.firstObserved + oneHour) (lr + retryTime)

/-- Tick times never go back and consecutive ticks are at most `G` apart (the first at most `G` after `t`). -/
def Gaps (G : Int) : Int → List (Int × Bool) → Prop
  | _, [] => True
  | t, (now, _) :: rest => t ≤ now ∧ now ≤ t + G ∧ Gaps G now rest

/-- No tick can find the entry alive after this time. -/
def deadline (G : Int) (st : VState) (t : Int) : Int :=
  max t (dueAt st) + G + (mu st : Int) * (retryTime + G)

private theorem dueAt_ge (st : VState) : st.firstObserved + oneHour ≤ dueAt st := by
  unfold dueAt
  split
  · exact Int.le_refl _
  · exact Int.le_max_left ..

/-- One unit of `mu` pays for `R + G`: the wait for this tick (at most `G`) and, after a retry at `now`, the wait until
`now + R`. (`max` terms and the product are generalised before `omega`: it would split on each `max` and cannot use the product.) -/
private theorem deadline_step {G t now D D' R : Int} {m m' : Nat} (hG : 0 ≤ G) (hR : 0 ≤ R) (hn : now ≤ t + G)
    (hm : m = m' + 1) (hD : D' ≤ max D (now + R)) :
    now ≤ max t D + G + (m : Int) * (R + G) ∧
    max now D' + G + (m' : Int) * (R + G) ≤ max t D + G + (m : Int) * (R + G) := by
  subst hm
  have ht := Int.le_max_left t D
  have hd := Int.le_max_right t D
  generalize max t D = M at *
  have hRG := Int.add_nonneg hR hG
  have hM : max now D' ≤ M + (R + G) :=
    Int.max_le.2 ⟨Int.le_trans hn (Int.add_le_add ht (Int.le_add_of_nonneg_left hR)),
      Int.le_trans hD (Int.max_le.2 ⟨Int.le_trans hd (Int.le_add_of_nonneg_right hRG), by omega⟩)⟩
  have h0 : 0 ≤ (m' : Int) * (R + G) := Int.mul_nonneg (Int.natCast_nonneg _) hRG
  rw [Int.natCast_add, Int.add_mul]
  generalize max now D' = M' at *
  generalize (m' : Int) * (R + G) = K at *
  omega

private theorem idle_before_due {now : Int} {st : VState}
    (h3 : ¬ (st.submitted = true ∧ now - st.firstObserved ≥ oneHour))
    (h5 : ¬ (st.submitted = false ∧ now - st.firstObserved ≥ fiveMinutes ∧ retryDue now st.lastRetry = true)) :
    now < dueAt st := by
  apply Int.lt_of_not_ge
  intro hge
  have hage : now - st.firstObserved ≥ oneHour := by have := dueAt_ge st; omega
  have h1 : oneHour ≥ fiveMinutes := by decide
  apply h5
  refine ⟨?_, by omega, ?_⟩
  · cases hs : st.submitted
    · rfl
    · exact absurd ⟨hs, hage⟩ h3
  · cases hl : st.lastRetry with
    | none => rfl
    | some lr =>
      have : lr + retryTime ≤ dueAt st := by unfold dueAt; rw [hl]; exact Int.le_max_right ..
      simp only [retryDue, decide_eq_true_eq]
      omega

/-- The potential step: a tick that keeps the entry lies before the deadline and does not raise it. -/
private theorem tick_progress {g : GSet} {db : List (VaaId × Bytes)} {G t now : Int} {room : Bool} {st st' : VState} {o : List Out}
    (hG : 0 ≤ G) (hn : now ≤ t + G) (h : cleanupEntry (some g) db now room st = .keep st' o) :
    now ≤ deadline G st t ∧ deadline G st' now ≤ deadline G st t := by
  have hR : 0 ≤ retryTime := by decide
  unfold deadline
  rcases cleanupEntry_keep_cases h with ⟨hs, _, rfl, _⟩ | ⟨ob, v, ho, _, _, hex, _, _, rfl, _⟩ | ⟨_, h3, h5, hst, _⟩
  · -- settled: one unit of `mu` spent, `dueAt` unchanged
    refine deadline_step (D' := dueAt st) hG hR hn ?_ (Int.le_max_left ..)
    simp only [mu, hs, Bool.false_eq_true, ↓reduceIte]
    rw [Nat.zero_add, Nat.add_comm]
  · -- retried: one unit of `mu` spent, the new `dueAt` is at most `max (dueAt st) (now + retryTime)`
    refine deadline_step hG hR hn ?_ (Int.max_le.2 ⟨Int.le_trans (dueAt_ge st) (Int.le_max_left ..), Int.le_max_right ..⟩)
    have := budget_left ho hex
    simp only [mu]
    omega
  · -- left alone: `now < dueAt st`, so the new deadline starts from `dueAt st ≤ max t (dueAt st)`
    rw [hst]
    have := idle_before_due h3 h5
    have h0 : 0 ≤ (mu st : Int) * (retryTime + G) := Int.mul_nonneg (Int.natCast_nonneg _) (Int.add_nonneg hR hG)
    have hD := Int.le_max_right t (dueAt st)
    rw [Int.max_eq_right (Int.le_of_lt this)]
    generalize max t (dueAt st) = M at *
    generalize (mu st : Int) * (retryTime + G) = K at *
    exact ⟨by omega, Int.add_le_add_right (Int.add_le_add_right hD G) K⟩

theorem tick_no_panic (g : GSet) (db : List (VaaId × Bytes)) (now : Int) (room : Bool) (st : VState)
    (hinv : ∀ o, st.ourMsg = some o → ∃ v, st.ourVAA = some v) :
    ∀ site, cleanupEntry (some g) db now room st ≠ .panic site := by
  intro site h
  rcases cleanupEntry_panic_cases h with hg | ⟨o, ho, hv⟩
  · cases hg
  · obtain ⟨v, hv'⟩ := hinv o ho
    rw [hv] at hv'; cases hv'

/-- Every tick that still finds the entry comes before its `deadline`. No bound on the retry counter is needed: a retry happens
only while the budget is unspent, and past the budget `mu` is just the settle step. -/
theorem ticks_before_deadline (g : GSet) (db : List (VaaId × Bytes)) (G : Int) (hG : 0 ≤ G) :
    ∀ (ticks : List (Int × Bool)) (st st' : VState) (t : Int), Gaps G t ticks →
      runTicks g db st ticks = some st' → ∀ p ∈ ticks, p.1 ≤ deadline G st t := by
  intro ticks
  induction ticks with
  | nil => intro st st' t _ _; nofun
  | cons tk rest ih =>
    intro st st' t hgaps hrun p hp
    obtain ⟨now, room⟩ := tk
    obtain ⟨_, hn, hrest⟩ := hgaps
    unfold runTicks at hrun
    split at hrun
    · next st1 o hk =>  -- the tick keeps the entry
      obtain ⟨a, b⟩ := tick_progress hG hn hk
      cases hp with
      | head => exact a
      | tail _ hp' => exact Int.le_trans (ih st1 st' now hrest hrun p hp') b
    · cases hrun

/-- **No aggregation entry lives forever.** Follow any entry (whatever its flags, counters and recorded times) through any
sequence of cleanup ticks whose times never go back and are at most `G` apart, the request queue full or not at each tick. If
the entry is still there after the last tick, then every one of those ticks happened before the entry's `deadline` — a time fixed
by the entry's state before the first tick: `max(start, first-seen + 1 h, last retry + 5 min) + G + (unspent retries + 1) · (5 min + G)`.
Hence ticks that keep coming delete every entry; with the 30-second ticker a fresh entry is gone at the latest
`1 h + 30 s + 14 401 · 5.5 min` after it was first seen (`fresh_entry_deadline`). -/
theorem lifetime_bounded (g : GSet) (db : List (VaaId × Bytes)) (G : Int) (hG : 0 ≤ G) :
    ∀ (ticks : List (Int × Bool)) (st st' : VState) (t : Int), st.retryCount ≤ maxRetries → Gaps G t ticks →
      runTicks g db st ticks = some st' → ∀ p ∈ ticks, p.1 ≤ deadline G st t :=
  fun ticks st st' t _ => ticks_before_deadline g db G hG ticks st st' t

/-- … so a tick after the deadline finds the entry gone (deleted by that tick or an earlier one). `runTicks` is `none` also
when a tick panics; with the current set known (`some g`) that needs `ourMsg` without `ourVAA`, which the C13 invariant
excludes (`tick_no_panic`). -/
theorem deleted_by_deadline (g : GSet) (db : List (VaaId × Bytes)) (G : Int) (hG : 0 ≤ G)
    (ticks : List (Int × Bool)) (st : VState) (t : Int) (hb : st.retryCount ≤ maxRetries) (hgaps : Gaps G t ticks)
    (hp : ∃ p ∈ ticks, deadline G st t < p.1) : runTicks g db st ticks = none := by
  cases hr : runTicks g db st ticks with
  | none => rfl
  | some st' =>
    obtain ⟨p, hp, hlt⟩ := hp
    have := lifetime_bounded g db G hG ticks st st' t hb hgaps hr p hp
    omega

/-- Non-vacuity: signatures parked for a message the node never saw, first seen at time 0; ticks at 1 h and 1 h 30 s
(30 s apart, starting 30 s after 59 min 30 s): the first settles the entry, the second deletes it. -/
example : Gaps 30000000000 3570000000000 [(3600000000000, true), (3630000000000, false)] ∧
    runTicks ⟨0, []⟩ [] { firstObserved := 0 } [(3600000000000, true)] ≠ none ∧
    runTicks ⟨0, []⟩ [] { firstObserved := 0 } [(3600000000000, true), (3630000000000, false)] = none := by
  exact ⟨by simp [Gaps], by decide, by decide⟩

/-- The deadline of a freshly created entry under the 30-second ticker. -/
theorem fresh_entry_deadline (f : Int) (st : VState) (hf : st.firstObserved = f) (hs : st.settled = false)
    (hr : st.retryCount = 0) (hl : st.lastRetry = none) :
    deadline (Whv.Gen.Proc.cleanupTickNs : Int) st f = f + (3600 + 30 + 14401 * 330) * 1000000000 := by
  unfold deadline dueAt mu
  rw [hl, hs, hr, hf]
  simp only [Whv.Gen.Proc.cleanupTickNs, oneHour, retryTime, maxRetries]
  have e : (((if false = true then 0 else 1) + (14400 - 0) : Nat) : Int) = 14401 := by decide
  rw [e]
  simp only [Int.max_def]
  split <;> omega

end Whv.C14
