import Whv.Lemmas.Gov
/-!
# C15 — governance requests become exactly the VAA the contracts parse, or are rejected

* Go side: `Whv.Gov` (`Whv/Model/Gov.lean`): the nine request → payload conversions of `adminserver.go` with their
  validation, the serializers of `payloads.go`, `CreateGovernanceVAA`, the loop and dispatch of `InjectGovernanceVAA`
  — as REPAIRED by `/verif/fixes/C15-governance-range-checks.diff`; tied to the real code by the differential run of
  `checks/c15.py` on every run.
* Contract side: `Whv.Gov.Ral`: the Ralph governance parsers, whose slice bounds, action bytes, module constants and
  `size!(payload)` equations are the constants of `Whv.Gen.C15`, re-extracted from the `.ral` sources on every run.
  If a contract offset moves, `Gen.C15` changes and the theorems below stop checking.

Per governance kind: layout (what the conversion's checks establish of an accepted request, every field of the payload at the
slice the parser reads, total length = the parser's size equation — the characterisation of the accepted branch of the
conversion, proved by following it once), losslessness (the parser recovers every requested value) and injectivity; then the executable Spec the driver
evaluates, the same Spec with the parser facts as data (the failing-input search for contract-side changes), and the handler
(no panic, purity, accepted requests handed over exactly).
-/
namespace Whv.C15
open Whv Whv.Gov

/-! ## UpdateMessageFee (core, action 3) -/

theorem c15_messageFee_layout (fee : Str) (p : Bytes) (h : updateMessageFeePayload fee = .ok p) :
    ∃ b, hexDecode fee = some b ∧ b.length = 32 ∧
      p = coreModule ++ (be 1 Gen.C15.actNewMessageFee ++ b) ∧
      Ral.slice p Gen.C15.moduleSlice = some coreModule ∧
      Ral.slice p Gen.C15.actionSlice = some (be 1 Gen.C15.actNewMessageFee) ∧
      Ral.slice p Gen.C15.feeValue = some b ∧
      p.length = Gen.C15.feeSize := by
  -- one goal per leaf of the conversion; every rejecting leaf is `.err _ = .ok p`
  revert h
  fun_cases updateMessageFeePayload fee <;> intro h <;> cases h
  next hl b hb =>
    have hl := hexDecode_length_64 hb hl
    -- `3` is the serializer's literal: this `exact` (and its like below) is where a moved action byte or offset of `Gen.C15` fails
    exact ⟨b, hb, hl, rfl, laid_cat [⟨coreModule, _, coreModule_length⟩, .be 1 3, ⟨b, _, hl⟩]⟩

theorem c15_messageFee_lossless (fee : Str) (p : Bytes) (h : updateMessageFeePayload fee = .ok p) :
    ∃ b, hexDecode fee = some b ∧ b.length = 32 ∧ Ral.parseMessageFee p = some (unbe b) := by
  obtain ⟨b, hb, hl, _, h1, h2, h3, h4⟩ := c15_messageFee_layout fee p h
  have hh := unbe_coreModule ▸ header_of_slices h1 h2
  exact ⟨b, hb, hl, by simp [Ral.parseMessageFee, hh, h3, h4]⟩

/-- 64 hex digits `00…0010` (fee 16). -/
def sampleFee : Str := List.replicate 61 48 ++ [49, 48, 48]
example : ∃ p, updateMessageFeePayload sampleFee = .ok p := ⟨_, rfl⟩

/-! ## TransferFee (core, action 4) -/

theorem c15_transferFee_layout (amount recipient : Str) (p : Bytes) (h : transferFeePayload amount recipient = .ok p) :
    ∃ a r, hexDecode amount = some a ∧ hexDecode recipient = some r ∧ a.length = 32 ∧ r.length = 32 ∧
      p = coreModule ++ (be 1 Gen.C15.actTransferFee ++ (a ++ r)) ∧
      Ral.slice p Gen.C15.moduleSlice = some coreModule ∧
      Ral.slice p Gen.C15.actionSlice = some (be 1 Gen.C15.actTransferFee) ∧
      Ral.slice p Gen.C15.tfAmount = some a ∧
      Ral.slice p Gen.C15.tfRecipient = some r ∧
      p.length = Gen.C15.tfSize := by
  revert h
  fun_cases transferFeePayload amount recipient <;> intro h <;> cases h
  next hla hlr a ha r hr =>
    have hla := hexDecode_length_64 ha hla
    have hlr := hexDecode_length_64 hr hlr
    exact ⟨a, r, ha, hr, hla, hlr, rfl,
      laid_cat [⟨coreModule, _, coreModule_length⟩, .be 1 4, ⟨a, _, hla⟩, ⟨r, _, hlr⟩]⟩

theorem c15_transferFee_lossless (amount recipient : Str) (p : Bytes) (h : transferFeePayload amount recipient = .ok p) :
    ∃ a r, hexDecode amount = some a ∧ hexDecode recipient = some r ∧ a.length = 32 ∧ r.length = 32 ∧
      Ral.parseTransferFee p = some (unbe a, r) := by
  obtain ⟨a, r, ha, hr, hla, hlr, _, h1, h2, h3, h4, h5⟩ := c15_transferFee_layout amount recipient p h
  have hh := unbe_coreModule ▸ header_of_slices h1 h2
  exact ⟨a, r, ha, hr, hla, hlr, by simp [Ral.parseTransferFee, hh, h3, h4, h5]⟩

example : ∃ p, transferFeePayload sampleFee (List.replicate 64 70) = .ok p := ⟨_, rfl⟩

/-! ## the guardian count on the wire is ONE byte — whatever limit the admin server applies

`adminGuardianSetUpgradeToVAA` bounds the number of guardians by `common.MaxGuardianCount` (19 on the pinned tree, the model's
`maxGuardianCount`; extracted as `Gen.C15.maxGuardianCount`).  The two theorems below are about the serializer and the contract's
parser alone, for EVERY number of keys: up to 255 keys come back exactly, 256 or more are never read back.  So the limit must stay
below 256 (`c15_admin_bound_fits_count_byte`), and the Spec the driver evaluates (`specOkF` on the emitted payload) does not depend
on which limit the code uses.  `c15_guardianSet_lossless` in the next section is the round trip for an accepted request. -/

/-- 1…255 keys: the contract's parser reads back exactly the new index and the keys that were serialized. -/
theorem c15_guardian_set_wire_roundtrip (keys : List Bytes) (idx : Nat) (hw : ∀ k ∈ keys, k.length = 20)
    (h0 : 0 < keys.length) (h255 : keys.length ≤ 255) (hi : idx < 2 ^ 32) :
    Ral.parseGuardianSet (serGuardianSetUpgrade keys idx) = some (idx, keys) := by
  obtain ⟨h1, h2, h3, h4, h5, h6⟩ := serGuardianSetUpgrade_layout keys idx hw
  have hh := unbe_coreModule ▸ header_of_slices h1 h2
  have hn : unbe (be 1 keys.length) = keys.length := unbe_be_of_lt (Nat.lt_succ_of_le h255)
  have hix : unbe (be 4 idx) = idx := unbe_be_of_lt hi
  have hch : Ral.chunks Gen.C15.gsKeyStride Gen.C15.gsKeyWidth keys.length
      ((be 1 keys.length ++ keys.flatten).drop Gen.C15.gsKeyBase) = keys := by
    rw [show (be 1 keys.length ++ keys.flatten).drop Gen.C15.gsKeyBase = keys.flatten ++ [] by simp [Gen.C15.gsKeyBase]]
    exact chunks_flatten 20 keys hw []
  have hnz : ¬ (keys.length = 0 ∨
      (serGuardianSetUpgrade keys idx).length ≠ Gen.C15.gsSizeBase + keys.length * Gen.C15.gsSizeStride) :=
    fun h => h.elim (Nat.ne_of_gt h0) (fun h => h h6)
  simp only [Ral.parseGuardianSet, hh, h3, h4, hn, hix, Bool.not_true, Bool.false_eq_true, if_false, if_neg hnz]
  -- the size the parser computes from the count is the payload's own length, so the blob it stores is the slice of `h5`
  rw [← h6, h5]
  simp only [hch]

/-- 256 or more keys: the one-byte count wraps (`uint8(len(b.Keys))`), the contract's size equation no longer holds (or the count
reads 0) and `submitNewGuardianSet` aborts: such a payload is never what the operator asked for. -/
theorem c15_guardian_count_over_one_byte (keys : List Bytes) (idx : Nat) (hw : ∀ k ∈ keys, k.length = 20) (h : 256 ≤ keys.length) :
    Ral.parseGuardianSet (serGuardianSetUpgrade keys idx) = none := by
  obtain ⟨_, _, h3, h4, _, h6⟩ := serGuardianSetUpgrade_layout keys idx hw
  have hbad : keys.length % 256 = 0 ∨
      (serGuardianSetUpgrade keys idx).length ≠ Gen.C15.gsSizeBase + keys.length % 256 * Gen.C15.gsSizeStride := by
    right
    rw [h6]
    simp only [Gen.C15.gsSizeStride]
    omega
  unfold Ral.parseGuardianSet
  split
  · rfl  -- header refused
  · simp only [h3, h4, unbe_be, if_pos hbad]  -- header passed: the count reads `keys.length % 256`, `hbad` is the parser's test

/-- The limit the admin server applies on the current tree (extracted from `node/pkg/common/guardianset.go`) is the one the model
uses and leaves the one-byte count intact. -/
theorem c15_admin_bound_fits_count_byte :
    maxGuardianCount = Gen.C15.maxGuardianCount ∧ Gen.C15.maxGuardianCount < 256 ^ Gen.C15.gsCountConv := by decide +kernel

example : Ral.parseGuardianSet (serGuardianSetUpgrade (List.replicate 255 (List.replicate 20 7)) 4) = some (4, List.replicate 255 (List.replicate 20 7)) :=
  c15_guardian_set_wire_roundtrip _ 4 (by intro k hk; rw [List.eq_of_mem_replicate hk]; exact List.length_replicate ..)
    (by rw [List.length_replicate]; omega) (by rw [List.length_replicate]; omega) (by omega)
example : Ral.parseGuardianSet (serGuardianSetUpgrade (List.replicate 256 (List.replicate 20 7)) 4) = none :=
  c15_guardian_count_over_one_byte _ 4 (by intro k hk; rw [List.eq_of_mem_replicate hk]; exact List.length_replicate ..)
    (by rw [List.length_replicate]; omega)

/-! ## GuardianSetUpgrade (core, action 2) -/

theorem c15_guardianSet_layout (gs : List Guardian) (gsi : Nat) (p : Bytes) (hg : gsi < 2 ^ 32)
    (h : guardianSetPayload gs gsi = .ok p) :
    ∃ keys, keysOf gs = some keys ∧ keys.length = gs.length ∧ (∀ k ∈ keys, k.length = 20) ∧
      0 < keys.length ∧ keys.length ≤ 19 ∧ gsi + 1 < 2 ^ 32 ∧
      p = coreModule ++ (be 1 Gen.C15.actNewGuardianSet ++ (be 4 (gsi + 1) ++ (be 1 keys.length ++ keys.flatten))) ∧
      Ral.slice p Gen.C15.moduleSlice = some coreModule ∧
      Ral.slice p Gen.C15.actionSlice = some (be 1 Gen.C15.actNewGuardianSet) ∧
      Ral.slice p Gen.C15.gsIndex = some (be 4 (gsi + 1)) ∧
      Ral.slice p Gen.C15.gsCount = some (be 1 keys.length) ∧
      Ral.slice p (Gen.C15.gsStoreFrom, p.length) = some (be 1 keys.length ++ keys.flatten) ∧
      p.length = Gen.C15.gsSizeBase + keys.length * Gen.C15.gsSizeStride := by
  revert h
  fun_cases guardianSetPayload gs gsi <;> intro h <;> cases h
  next h0 h19 hidx addrs ha =>
    obtain ⟨keys, hk, he, hl, hw⟩ := gsLoop_ok_inv ha
    subst he
    have hlt : gsi + 1 < 2 ^ 32 := by omega
    rw [Nat.mod_eq_of_lt hlt]
    exact ⟨addrs, hk, hl, hw, hl ▸ Nat.pos_of_ne_zero h0, hl ▸ Nat.not_lt.1 h19, hlt, rfl,
      serGuardianSetUpgrade_layout addrs (gsi + 1) hw⟩

theorem c15_guardianSet_lossless (gs : List Guardian) (gsi : Nat) (p : Bytes) (hg : gsi < 2 ^ 32)
    (h : guardianSetPayload gs gsi = .ok p) :
    ∃ keys, keysOf gs = some keys ∧ keys.length = gs.length ∧ Ral.parseGuardianSet p = some (gsi + 1, keys) := by
  obtain ⟨keys, hk, hl, hw, h0, h19, hlt, rfl, _⟩ := c15_guardianSet_layout gs gsi p hg h
  exact ⟨keys, hk, hl, c15_guardian_set_wire_roundtrip keys (gsi + 1) hw h0 (Nat.le_trans h19 (by decide)) hlt⟩

def sampleGuardians : List Guardian :=
  [⟨[48, 120] ++ List.replicate 40 49, [97]⟩, ⟨List.replicate 40 65, [98]⟩]
example : ∃ p, guardianSetPayload sampleGuardians 7 = .ok p := ⟨_, rfl⟩
/-- the largest index that can still be upgraded from -/
example : ∃ p, guardianSetPayload sampleGuardians (2 ^ 32 - 2) = .ok p := ⟨_, rfl⟩

/-! ## ContractUpgrade (core, action 1) -/

/-- (`cuCodeLen.1 = cuStart`: the first thing `parseContractUpgrade` reads lies at the very start of what it is handed.) -/
theorem c15_contractUpgrade_layout (s : Str) (p : Bytes) (h : contractUpgradePayload s = .ok p) :
    ∃ b, hexDecode s = some b ∧
      p = coreModule ++ (be 1 Gen.C15.actContractUpgrade ++ b) ∧
      Ral.slice p Gen.C15.moduleSlice = some coreModule ∧
      Ral.slice p Gen.C15.actionSlice = some (be 1 Gen.C15.actContractUpgrade) ∧
      p.drop Gen.C15.cuStart = b ∧ Gen.C15.cuCodeLen.1 = Gen.C15.cuStart ∧
      p.length = Gen.C15.cuStart + b.length := by
  revert h
  fun_cases contractUpgradePayload s <;> intro h <;> cases h
  next b hb =>
    obtain ⟨h1, h2, _, hlen⟩ := laid_cat [⟨coreModule, _, coreModule_length⟩, .be 1 1, ⟨b, _, rfl⟩]
    exact ⟨b, hb, rfl, h1, h2, by simp [serContractUpgrade, Gen.C15.cuStart, List.drop_append, coreModule_length], rfl, hlen⟩

theorem c15_contractUpgrade_lossless (s : Str) (p : Bytes) (h : contractUpgradePayload s = .ok p) :
    ∃ b, hexDecode s = some b ∧ Ral.parseUpgrade Gen.C15.coreModule Gen.C15.actContractUpgrade p = some b := by
  obtain ⟨b, hb, _, h1, h2, h3, _, h5⟩ := c15_contractUpgrade_layout s p h
  have hh := unbe_coreModule ▸ header_of_slices h1 h2
  have : ¬ p.length < Gen.C15.cuStart := Nat.not_lt.2 (h5 ▸ Nat.le_add_right _ _)
  exact ⟨b, hb, by simp [Ral.parseUpgrade, hh, h3, this]⟩

example : ∃ p, contractUpgradePayload [48, 49, 97, 70] = .ok p := ⟨_, rfl⟩

/-! ## TokenBridge RegisterChain (action 1; the module is part of the request) -/

theorem c15_registerChain_layout (m : Str) (c : Nat) (e : Str) (p : Bytes) (h : registerChainPayload m c e = .ok p) :
    ∃ b, hexDecode e = some b ∧ b.length = 32 ∧ m.length ≤ 32 ∧ c < 2 ^ 16 ∧
      p = padModule m ++ (be 1 Gen.C15.actRegisterChain ++ (be 2 c ++ b)) ∧
      Ral.slice p Gen.C15.moduleSlice = some (padModule m) ∧
      Ral.slice p Gen.C15.actionSlice = some (be 1 Gen.C15.actRegisterChain) ∧
      Ral.slice p Gen.C15.rcChain = some (be 2 c) ∧
      Ral.slice p Gen.C15.rcBridge = some b ∧
      p.length = Gen.C15.rcSize := by
  revert h
  fun_cases registerChainPayload m c e
  case case5 hm hc b hb hl =>  -- every check passed: the serializer, which panics only on a module of more than 32 bytes
    have hm' := Nat.not_lt.1 hm
    have hc' : c < 2 ^ 16 := Nat.lt_of_not_le hc
    have hl' := Decidable.not_not.1 hl
    rw [serRegisterChain, if_neg hm, Nat.mod_eq_of_lt hc']
    intro h
    cases h
    exact ⟨b, hb, hl', hm', hc', rfl,
      laid_cat [⟨padModule m, _, padModule_length hm'⟩, .be 1 1, .be 2 c, ⟨b, _, hl'⟩]⟩
  all_goals nofun

theorem c15_registerChain_lossless (m : Str) (c : Nat) (e : Str) (p : Bytes) (h : registerChainPayload m c e = .ok p) :
    ∃ b, hexDecode e = some b ∧ b.length = 32 ∧ Ral.parseRegisterChain (unbe m) p = some (c, b) := by
  obtain ⟨b, hb, hl, _, hc, _, h1, h2, h3, h4, h5⟩ := c15_registerChain_layout m c e p h
  have hh := unbe_padModule m ▸ header_of_slices h1 h2
  have hcv : unbe (be 2 c) = c := unbe_be_of_lt hc
  exact ⟨b, hb, hl, by simp [Ral.parseRegisterChain, hh, h3, h4, h5, hcv]⟩

/-- The module name the Alephium token bridge expects is `"TokenBridge"`. -/
def tokenBridgeName : Str := [0x54, 0x6f, 0x6b, 0x65, 0x6e, 0x42, 0x72, 0x69, 0x64, 0x67, 0x65]
theorem c15_tokenBridge_name : unbe tokenBridgeName = Gen.C15.tokenBridgeModule ∧ padModule tokenBridgeName = tokenBridgeModule := by
  decide +kernel
example : ∃ p, registerChainPayload tokenBridgeName 65535 (List.replicate 64 102) = .ok p := ⟨_, rfl⟩

/-! ## TokenBridge UpgradeContract (action 2) -/

theorem c15_bridgeUpgrade_layout (m s : Str) (p : Bytes) (h : bridgeUpgradePayload m s = .ok p) :
    ∃ b, hexDecode s = some b ∧ m.length ≤ 32 ∧
      p = padModule m ++ (be 1 Gen.C15.actBridgeContractUpgrade ++ b) ∧
      Ral.slice p Gen.C15.moduleSlice = some (padModule m) ∧
      Ral.slice p Gen.C15.actionSlice = some (be 1 Gen.C15.actBridgeContractUpgrade) ∧
      p.drop Gen.C15.cuStart = b ∧
      p.length = Gen.C15.cuStart + b.length := by
  revert h
  fun_cases bridgeUpgradePayload m s
  case case3 hm b hb =>  -- every check passed: the serializer
    have hpm := padModule_length (Nat.not_lt.1 hm)
    rw [serBridgeUpgrade, if_neg hm]
    intro h
    cases h
    obtain ⟨h1, h2, _, hlen⟩ := laid_cat [⟨padModule m, _, hpm⟩, .be 1 2, ⟨b, _, rfl⟩]
    exact ⟨b, hb, Nat.not_lt.1 hm, rfl, h1, h2, by simp [Gen.C15.cuStart, List.drop_append, hpm], hlen⟩
  all_goals nofun

theorem c15_bridgeUpgrade_lossless (m s : Str) (p : Bytes) (h : bridgeUpgradePayload m s = .ok p) :
    ∃ b, hexDecode s = some b ∧ Ral.parseUpgrade (unbe m) Gen.C15.actBridgeContractUpgrade p = some b := by
  obtain ⟨b, hb, _, _, h1, h2, h3, h4⟩ := c15_bridgeUpgrade_layout m s p h
  have hh := unbe_padModule m ▸ header_of_slices h1 h2
  have : ¬ p.length < Gen.C15.cuStart := Nat.not_lt.2 (h4 ▸ Nat.le_add_right _ _)
  exact ⟨b, hb, by simp [Ral.parseUpgrade, hh, h3, this]⟩

example : ∃ p, bridgeUpgradePayload tokenBridgeName [48, 49] = .ok p := ⟨_, rfl⟩

/-! ## TokenBridge DestroyUnexecutedSequenceContracts (action 0xf0) -/

theorem c15_destroy_layout (c : Nat) (seqs : List Nat) (p : Bytes) (h : destroyPayload c seqs = .ok p) :
    c < 2 ^ 16 ∧ seqs.length < 2 ^ 16 ∧
      p = tokenBridgeModule ++ (be 1 Gen.C15.actDestroy ++ (be 2 c ++ (be 2 seqs.length ++ (seqs.map (be 8)).flatten))) ∧
      Ral.slice p Gen.C15.moduleSlice = some tokenBridgeModule ∧
      Ral.slice p Gen.C15.actionSlice = some (be 1 Gen.C15.actDestroy) ∧
      Ral.slice p Gen.C15.dsChain = some (be 2 c) ∧
      Ral.slice p Gen.C15.dsCount = some (be 2 seqs.length) ∧
      Ral.slice p (Gen.C15.dsPathsFrom, p.length) = some (seqs.map (be 8)).flatten ∧
      p.length = Gen.C15.dsSizeBase + seqs.length * Gen.C15.dsSizeStride := by
  revert h
  fun_cases destroyPayload c seqs <;> intro h <;> cases h
  next hc hl =>
    have hc' : c < 2 ^ 16 := Nat.lt_of_not_le hc
    rw [Nat.mod_eq_of_lt hc', serDestroy]
    have hfl : ((seqs.map (be 8)).flatten).length = seqs.length * 8 := by
      simpa using List.flatten_length_const 8 (seqs.map (be 8)) (fun _ => length_of_mem_map_be)
    obtain ⟨h1, h2, h3, h4, h5, h6⟩ := laid_cat [⟨tokenBridgeModule, _, tokenBridgeModule_length⟩, .be 1 0xf0,
      .be 2 c, .be 2 seqs.length, ⟨_, _, hfl⟩]
    exact ⟨hc', Nat.lt_of_not_le hl, rfl, h1, h2, h3, h4, h6 ▸ h5, h6⟩

theorem c15_destroy_lossless (c : Nat) (seqs : List Nat) (p : Bytes) (hw : ∀ s ∈ seqs, s < 2 ^ 64)
    (h : destroyPayload c seqs = .ok p) : Ral.parseDestroy p = some (c, seqs) := by
  obtain ⟨hc, hl, _, h1, h2, h3, h4, h5, h6⟩ := c15_destroy_layout c seqs p h
  have hh := unbe_tokenBridgeModule ▸ header_of_slices h1 h2
  have hcv : unbe (be 2 c) = c := unbe_be_of_lt hc
  have hn : unbe (be 2 seqs.length) = seqs.length := unbe_be_of_lt hl
  unfold Ral.parseDestroy
  simp only [hh, h3, h4, hn, hcv]
  rw [← h6, h5]
  simp [Gen.C15.dsPathWidth, chunks_map_be8 seqs hw]

example : ∃ p, destroyPayload 65535 [0, 1, 2 ^ 64 - 1] = .ok p := ⟨_, rfl⟩

/-! ## TokenBridge UpdateMinimalConsistencyLevel (action 0xf1) -/

theorem c15_minConsistency_layout (l : Nat) (p : Bytes) (h : minConsistencyPayload l = .ok p) :
    l < 2 ^ 8 ∧
      p = tokenBridgeModule ++ (be 1 Gen.C15.actMinConsistency ++ be 1 l) ∧
      Ral.slice p Gen.C15.moduleSlice = some tokenBridgeModule ∧
      Ral.slice p Gen.C15.actionSlice = some (be 1 Gen.C15.actMinConsistency) ∧
      Ral.slice p Gen.C15.clValue = some (be 1 l) ∧
      p.length = Gen.C15.clSize := by
  revert h
  fun_cases minConsistencyPayload l <;> intro h <;> cases h
  next hl =>
    have hl' : l < 2 ^ 8 := Nat.lt_of_not_le hl
    rw [Nat.mod_eq_of_lt hl']
    exact ⟨hl', rfl, laid_cat [⟨tokenBridgeModule, _, tokenBridgeModule_length⟩, .be 1 0xf1, .be 1 l]⟩

theorem c15_minConsistency_lossless (l : Nat) (p : Bytes) (h : minConsistencyPayload l = .ok p) :
    Ral.parseMinConsistency p = some l := by
  obtain ⟨hl, _, h1, h2, h3, h4⟩ := c15_minConsistency_layout l p h
  have hh := unbe_tokenBridgeModule ▸ header_of_slices h1 h2
  have hv : unbe (be 1 l) = l := unbe_be_of_lt hl
  simp [Ral.parseMinConsistency, hh, h3, h4, hv]

example : ∃ p, minConsistencyPayload 255 = .ok p := ⟨_, rfl⟩

/-! ## TokenBridge UpdateRefundAddress (action 0xf2) -/

theorem c15_refundAddress_layout (s : Str) (p : Bytes) (h : refundAddressPayload s = .ok p) :
    ∃ b, hexDecode s = some b ∧ b.length < 2 ^ 16 ∧
      p = tokenBridgeModule ++ (be 1 Gen.C15.actRefundAddress ++ (be 2 b.length ++ b)) ∧
      Ral.slice p Gen.C15.moduleSlice = some tokenBridgeModule ∧
      Ral.slice p Gen.C15.actionSlice = some (be 1 Gen.C15.actRefundAddress) ∧
      Ral.slice p Gen.C15.raLen = some (be 2 b.length) ∧
      Ral.slice p (Gen.C15.raAddrFrom, p.length) = some b ∧
      p.length = Gen.C15.raSizeBase + b.length * Gen.C15.raSizeStride := by
  revert h
  fun_cases refundAddressPayload s <;> intro h <;> cases h
  next b hb hl =>
    rw [serRefundAddress]
    -- the address's length is given as `b.length * 1`, the shape of the contract's size equation
    obtain ⟨h1, h2, h3, h4, h5⟩ := laid_cat [⟨tokenBridgeModule, _, tokenBridgeModule_length⟩, .be 1 0xf2,
      .be 2 b.length, ⟨b, _, (Nat.mul_one _).symm⟩]
    exact ⟨b, hb, Nat.lt_of_not_le hl, rfl, h1, h2, h3, h5 ▸ h4, h5⟩

theorem c15_refundAddress_lossless (s : Str) (p : Bytes) (h : refundAddressPayload s = .ok p) :
    ∃ b, hexDecode s = some b ∧ Ral.parseRefundAddress p = some b := by
  obtain ⟨b, hb, hl, _, h1, h2, h3, h4, h5⟩ := c15_refundAddress_layout s p h
  refine ⟨b, hb, ?_⟩
  have hh := unbe_tokenBridgeModule ▸ header_of_slices h1 h2
  have hn : unbe (be 2 b.length) = b.length := unbe_be_of_lt hl
  unfold Ral.parseRefundAddress
  simp only [hh, h3, hn]
  rw [← h5, h4]
  simp

example : ∃ p, refundAddressPayload (List.replicate 66 48) = .ok p := ⟨_, rfl⟩

/-! ## losslessness as injectivity: within a kind, two accepted requests with the same payload asked for the same values -/

theorem c15_messageFee_injective (f₁ f₂ : Str) (p : Bytes) (h₁ : updateMessageFeePayload f₁ = .ok p)
    (h₂ : updateMessageFeePayload f₂ = .ok p) : hexDecode f₁ = hexDecode f₂ := by
  obtain ⟨b₁, dec₁, _, _, _, _, feeAt₁, _⟩ := c15_messageFee_layout f₁ p h₁
  obtain ⟨b₂, dec₂, _, _, _, _, feeAt₂, _⟩ := c15_messageFee_layout f₂ p h₂
  rw [dec₁, dec₂, ← feeAt₁, ← feeAt₂]

theorem c15_transferFee_injective (a₁ r₁ a₂ r₂ : Str) (p : Bytes) (h₁ : transferFeePayload a₁ r₁ = .ok p)
    (h₂ : transferFeePayload a₂ r₂ = .ok p) : hexDecode a₁ = hexDecode a₂ ∧ hexDecode r₁ = hexDecode r₂ := by
  obtain ⟨x₁, y₁, decA₁, decR₁, _, _, _, _, _, amountAt₁, recipientAt₁, _⟩ := c15_transferFee_layout a₁ r₁ p h₁
  obtain ⟨x₂, y₂, decA₂, decR₂, _, _, _, _, _, amountAt₂, recipientAt₂, _⟩ := c15_transferFee_layout a₂ r₂ p h₂
  exact ⟨by rw [decA₁, decA₂, ← amountAt₁, ← amountAt₂], by rw [decR₁, decR₂, ← recipientAt₁, ← recipientAt₂]⟩

theorem c15_guardianSet_injective (g₁ g₂ : List Guardian) (i₁ i₂ : Nat) (p : Bytes) (hi₁ : i₁ < 2 ^ 32) (hi₂ : i₂ < 2 ^ 32)
    (h₁ : guardianSetPayload g₁ i₁ = .ok p) (h₂ : guardianSetPayload g₂ i₂ = .ok p) :
    keysOf g₁ = keysOf g₂ ∧ i₁ = i₂ := by
  obtain ⟨k₁, keys₁, _, parsed₁⟩ := c15_guardianSet_lossless g₁ i₁ p hi₁ h₁
  obtain ⟨k₂, keys₂, _, parsed₂⟩ := c15_guardianSet_lossless g₂ i₂ p hi₂ h₂
  obtain ⟨hi, hk⟩ := Prod.mk.inj (Option.some.inj (parsed₁.symm.trans parsed₂))
  exact ⟨by rw [keys₁, keys₂, hk], Nat.succ.inj hi⟩

theorem c15_contractUpgrade_injective (s₁ s₂ : Str) (p : Bytes) (h₁ : contractUpgradePayload s₁ = .ok p)
    (h₂ : contractUpgradePayload s₂ = .ok p) : hexDecode s₁ = hexDecode s₂ := by
  obtain ⟨b₁, dec₁, _, _, _, codeFrom₁, _⟩ := c15_contractUpgrade_layout s₁ p h₁
  obtain ⟨b₂, dec₂, _, _, _, codeFrom₂, _⟩ := c15_contractUpgrade_layout s₂ p h₂
  rw [dec₁, dec₂, ← codeFrom₁, ← codeFrom₂]

/-- (the module is compared as the number the contract reads: leading NUL bytes of the name do not matter) -/
theorem c15_registerChain_injective (m₁ m₂ : Str) (c₁ c₂ : Nat) (e₁ e₂ : Str) (p : Bytes)
    (h₁ : registerChainPayload m₁ c₁ e₁ = .ok p) (h₂ : registerChainPayload m₂ c₂ e₂ = .ok p) :
    unbe m₁ = unbe m₂ ∧ c₁ = c₂ ∧ hexDecode e₁ = hexDecode e₂ := by
  obtain ⟨b₁, dec₁, _, _, hc₁, _, moduleAt₁, _, chainAt₁, bridgeAt₁, _⟩ := c15_registerChain_layout m₁ c₁ e₁ p h₁
  obtain ⟨b₂, dec₂, _, _, hc₂, _, moduleAt₂, _, chainAt₂, bridgeAt₂, _⟩ := c15_registerChain_layout m₂ c₂ e₂ p h₂
  refine ⟨?_, ?_, ?_⟩
  · rw [← unbe_padModule m₁, ← unbe_padModule m₂, Option.some.inj (moduleAt₁.symm.trans moduleAt₂)]
  · exact be_inj_of_lt (w := 2) hc₁ hc₂ (Option.some.inj (chainAt₁.symm.trans chainAt₂))
  · rw [dec₁, dec₂, ← bridgeAt₁, ← bridgeAt₂]

theorem c15_bridgeUpgrade_injective (m₁ m₂ s₁ s₂ : Str) (p : Bytes) (h₁ : bridgeUpgradePayload m₁ s₁ = .ok p)
    (h₂ : bridgeUpgradePayload m₂ s₂ = .ok p) : unbe m₁ = unbe m₂ ∧ hexDecode s₁ = hexDecode s₂ := by
  obtain ⟨b₁, dec₁, _, _, moduleAt₁, _, codeFrom₁, _⟩ := c15_bridgeUpgrade_layout m₁ s₁ p h₁
  obtain ⟨b₂, dec₂, _, _, moduleAt₂, _, codeFrom₂, _⟩ := c15_bridgeUpgrade_layout m₂ s₂ p h₂
  constructor
  · rw [← unbe_padModule m₁, ← unbe_padModule m₂, Option.some.inj (moduleAt₁.symm.trans moduleAt₂)]
  · rw [dec₁, dec₂, ← codeFrom₁, ← codeFrom₂]

theorem c15_destroy_injective (c₁ c₂ : Nat) (s₁ s₂ : List Nat) (p : Bytes) (w₁ : ∀ s ∈ s₁, s < 2 ^ 64) (w₂ : ∀ s ∈ s₂, s < 2 ^ 64)
    (h₁ : destroyPayload c₁ s₁ = .ok p) (h₂ : destroyPayload c₂ s₂ = .ok p) : c₁ = c₂ ∧ s₁ = s₂ :=
  Prod.mk.inj (Option.some.inj ((c15_destroy_lossless c₁ s₁ p w₁ h₁).symm.trans (c15_destroy_lossless c₂ s₂ p w₂ h₂)))

theorem c15_minConsistency_injective (l₁ l₂ : Nat) (p : Bytes) (h₁ : minConsistencyPayload l₁ = .ok p)
    (h₂ : minConsistencyPayload l₂ = .ok p) : l₁ = l₂ :=
  Option.some.inj ((c15_minConsistency_lossless l₁ p h₁).symm.trans (c15_minConsistency_lossless l₂ p h₂))

theorem c15_refundAddress_injective (s₁ s₂ : Str) (p : Bytes) (h₁ : refundAddressPayload s₁ = .ok p)
    (h₂ : refundAddressPayload s₂ = .ok p) : hexDecode s₁ = hexDecode s₂ := by
  obtain ⟨b₁, dec₁, parsed₁⟩ := c15_refundAddress_lossless s₁ p h₁
  obtain ⟨b₂, dec₂, parsed₂⟩ := c15_refundAddress_lossless s₂ p h₂
  rw [dec₁, dec₂, Option.some.inj (parsed₁.symm.trans parsed₂)]

/-- The injectivity is not vacuous: without the range check the levels 44 and 300 would share a payload (300 wraps to 44); 300 is
rejected. -/
example : (∃ p, minConsistencyPayload 44 = .ok p) ∧ ∃ e, minConsistencyPayload 300 = .err e := ⟨⟨_, rfl⟩, ⟨_, rfl⟩⟩

/-! ## all kinds at once: the executable Spec holds of everything the model accepts -/

/-- Whatever request the (repaired) conversion accepts, the contract-side parser of that kind accepts the payload and
recovers every requested value — `specOk` is the very predicate the driver evaluates on the implementation's payloads. -/
theorem c15_spec_sound (gsi : Nat) (pl : Payload) (p : Bytes) (hg : gsi < 2 ^ 32) (hw : pl.WF)
    (h : convert gsi pl = .ok p) : specOk gsi pl p = true := by
  cases pl with
  | none => cases h
  | updateMessageFee fee =>
    obtain ⟨b, hb, hl, hp⟩ := c15_messageFee_lossless fee p h
    simp only [specOk, hb, hl, hp, beq_self_eq_true, Bool.and_self]
  | transferFee a r =>
    obtain ⟨x, y, hx, hy, hlx, hly, hp⟩ := c15_transferFee_lossless a r p h
    simp only [specOk, hx, hy, hlx, hly, hp, beq_self_eq_true, Bool.and_self]
  | guardianSet gs =>
    obtain ⟨keys, hk, _, hp⟩ := c15_guardianSet_lossless gs gsi p hg h
    simp only [specOk, hk, hp, beq_self_eq_true]
  | contractUpgrade s =>
    obtain ⟨b, hb, hp⟩ := c15_contractUpgrade_lossless s p h
    simp only [specOk, hb, hp, beq_self_eq_true]
  | registerChain m c e =>
    obtain ⟨b, hb, hl, hp⟩ := c15_registerChain_lossless m c e p h
    simp only [specOk, hb, hl, hp, beq_self_eq_true, Bool.and_self]
  | bridgeUpgrade m s =>
    obtain ⟨b, hb, hp⟩ := c15_bridgeUpgrade_lossless m s p h
    simp only [specOk, hb, hp, beq_self_eq_true]
  | destroy c seqs => simp only [specOk, c15_destroy_lossless c seqs p hw h, beq_self_eq_true]
  | minConsistency l => simp only [specOk, c15_minConsistency_lossless l p h, beq_self_eq_true]
  | refundAddress s =>
    obtain ⟨b, hb, hp⟩ := c15_refundAddress_lossless s p h
    simp only [specOk, hb, hp, beq_self_eq_true]

/-- The Spec is not vacuous: it rejects the payloads the unrepaired code produced for out-of-range requests
(consistency level 300 encoded as 44; emitter chain 65538 encoded as 2). -/
theorem c15_spec_rejects_wrapped :
    specOk 0 (.minConsistency 300) (tokenBridgeModule ++ (be 1 0xf1 ++ be 1 300)) = false ∧
    specOk 0 (.destroy 65538 [5]) (tokenBridgeModule ++ (be 1 0xf0 ++ (be 2 65538 ++ (be 2 1 ++ be 8 5)))) = false := by
  decide +kernel

/-! ## the failing-input search: the Spec with the parser facts as data

The driver is handed the facts `checks/c15.py` extracted from the CURRENT contract sources and evaluates `specOkF F` on every
payload the real node emitted; when the node emitted exactly the payload `convert` (proved correct above) emits and
`specOkF F` is false, it reports the request as `contract-rejects-node-payload` / `contract-reads-other-value`. -/

/-- Every `u256From<N>Byte!` conversion of the parsers is applied to a slice of exactly `N` bytes (otherwise the VM aborts). -/
theorem c15_conversions_fit :
    Gen.C15.moduleConv = Gen.C15.moduleSlice.2 - Gen.C15.moduleSlice.1 ∧ Gen.C15.moduleConv = 32 ∧
    Gen.C15.gsIndexConv = Gen.C15.gsIndex.2 - Gen.C15.gsIndex.1 ∧ Gen.C15.gsCountConv = Gen.C15.gsCount.2 - Gen.C15.gsCount.1 ∧
    Gen.C15.feeConv = Gen.C15.feeValue.2 - Gen.C15.feeValue.1 ∧ Gen.C15.tfAmountConv = Gen.C15.tfAmount.2 - Gen.C15.tfAmount.1 ∧
    Gen.C15.cuCodeLenConv = Gen.C15.cuCodeLen.2 - Gen.C15.cuCodeLen.1 ∧ Gen.C15.rcChainConv = Gen.C15.rcChain.2 - Gen.C15.rcChain.1 ∧
    Gen.C15.dsCountConv = Gen.C15.dsCount.2 - Gen.C15.dsCount.1 ∧ Gen.C15.clConv = Gen.C15.clValue.2 - Gen.C15.clValue.1 ∧
    Gen.C15.raLenConv = Gen.C15.raLen.2 - Gen.C15.raLen.1 := by
  decide +kernel

/-- The parser facts extracted from the contract sources are exactly the layout the node's serializers implement. -/
theorem c15_gen_is_node_layout : Facts.gen = Facts.node := by decide +kernel

/-- With the compiled-in facts, the Spec-with-facts-as-data IS the Spec the theorems above are about. -/
theorem c15_specF_gen (gsi : Nat) (pl : Payload) (p : Bytes) : specOkF Facts.gen gsi pl p = specOk gsi pl p := by
  cases pl <;>
    simp only [specOkF, specOk, parseMessageFee_gen, parseTransferFee_gen, parseGuardianSet_gen, parseUpgrade_gen,
      parseRegisterChain_gen, parseDestroy_gen, parseMinConsistency_gen, parseRefundAddress_gen]
  -- left: the two upgrades, where `specOkF` names the module and action as fields of `Facts.gen` and `specOk` as constants of `Gen.C15`
  all_goals rfl

/-- The search cannot fire on the unchanged tree: with the facts the library was built against, every payload the
(repaired) conversion emits passes the Spec-with-facts-as-data. -/
theorem c15_search_sound (gsi : Nat) (pl : Payload) (p : Bytes) (hg : gsi < 2 ^ 32) (hw : pl.WF)
    (h : convert gsi pl = .ok p) : specOkF Facts.gen gsi pl p = true := by
  rw [c15_specF_gen]
  exact c15_spec_sound gsi pl p hg hw h

example : ∃ p, convert 7 (.destroy 65535 [0, 1, 2 ^ 64 - 1]) = .ok p ∧ (Payload.destroy 65535 [0, 1, 2 ^ 64 - 1]).WF ∧
    specOkF Facts.gen 7 (.destroy 65535 [0, 1, 2 ^ 64 - 1]) p = true :=
  ⟨_, rfl, by simp [Payload.WF], by decide +kernel⟩

/-- A contract whose `submitTransferFees` reads a 33-byte recipient at [65,98) and asserts 98 bytes
(`/verif/seeded/C15-r3m3`). -/
def factsRecipient33 : Facts := { Facts.gen with tfRecipient := (65, 98), tfSize := 98 }
/-- A contract that reads the sequence count as `u256From1Byte!(payload[36,37))` (`/verif/seeded/C15-m3`). -/
def factsCountLowByte : Facts := { Facts.gen with dsCount := (36, 37), dsCountConv := 1 }

/-- Reading only the low byte of the sequence count: up to 255 sequences are read back; from 256 on the count wraps and the size
assertion fails. -/
theorem c15_destroy_countLowByte (c : Nat) (seqs : List Nat) (p : Bytes) (hw : ∀ s ∈ seqs, s < 2 ^ 64)
    (h : destroyPayload c seqs = .ok p) :
    RalF.parseDestroy factsCountLowByte p = if seqs.length < 256 then some (c, seqs) else none := by
  obtain ⟨hc, hl, hp, h1, h2, h3, _, h5, h6⟩ := c15_destroy_layout c seqs p h
  have hh : RalF.header factsCountLowByte factsCountLowByte.tokenBridgeModule factsCountLowByte.actDestroy p = true :=
    (header_gen Gen.C15.tokenBridgeModule Gen.C15.actDestroy p).trans (unbe_tokenBridgeModule ▸ header_of_slices h1 h2)
  -- `be 2 n` is `be 1 (n / 256) ‖ be 1 n`: the slice [36,37) is the low byte of the count
  have h4 : Ral.slice p (36, 37) = some (be 1 seqs.length) := by
    rw [hp]
    obtain ⟨_, _, _, _, lowByteAt, _⟩ := laid_cat [⟨tokenBridgeModule, _, tokenBridgeModule_length⟩, .be 1 0xf0, .be 2 c,
      .be 1 (seqs.length / 256), .be 1 seqs.length, ⟨(seqs.map (be 8)).flatten, _, rfl⟩]
    exact lowByteAt
  have hn : RalF.conv 1 (be 1 seqs.length) = some (seqs.length % 256) := by simp [RalF.conv, unbe_be]
  have hcv : unbe (be 2 c) = c := unbe_be_of_lt hc
  unfold RalF.parseDestroy
  simp only [hh]
  dsimp only [factsCountLowByte, Facts.gen]
  simp only [h3, h4, hn, Bool.not_true, Bool.false_eq_true, if_false]
  by_cases hlt : seqs.length < 256
  · simp [Nat.mod_eq_of_lt hlt, ← h6, h5, hlt, hcv, Gen.C15.dsPathWidth, chunks_map_be8 seqs hw]
  · have : p.length ≠ Gen.C15.dsSizeBase + seqs.length % 256 * Gen.C15.dsSizeStride := by
      rw [h6]
      simp only [Gen.C15.dsSizeStride]
      omega
    simp [hlt, this]

/-- The search is not vacuous: against deviating facts it fires on the payload the model itself emits — the parser rejects
every TransferFee payload when it wants 98 bytes; reading only the low byte of the count it still accepts 255 sequences
but rejects 256. -/
theorem c15_search_fires :
    (∃ p, transferFeePayload sampleFee (List.replicate 64 70) = .ok p ∧
      specOkF factsRecipient33 0 (.transferFee sampleFee (List.replicate 64 70)) p = false ∧
      acceptsF factsRecipient33 (.transferFee sampleFee (List.replicate 64 70)) p = false) ∧
    (∃ p, destroyPayload 2 (List.replicate 255 7) = .ok p ∧ specOkF factsCountLowByte 0 (.destroy 2 (List.replicate 255 7)) p = true) ∧
    (∃ p, destroyPayload 2 (List.replicate 256 7) = .ok p ∧ specOkF factsCountLowByte 0 (.destroy 2 (List.replicate 256 7)) p = false) := by
  have hw : ∀ n, ∀ s ∈ List.replicate n 7, s < 2 ^ 64 := fun n s hs => by
    rw [List.eq_of_mem_replicate hs]
    decide
  have hd : ∀ n, n ≤ 65535 → destroyPayload 2 (List.replicate n 7) = .ok (serDestroy 2 (List.replicate n 7)) := fun n hn => by
    rw [destroyPayload, if_neg (by decide), if_neg (by simpa using hn)]
  refine ⟨⟨serTransferFee (be 32 256) (List.replicate 32 255), by decide +kernel⟩,
    ⟨_, hd 255 (by decide), ?_⟩, ⟨_, hd 256 (by decide), ?_⟩⟩
  · rw [specOkF, c15_destroy_countLowByte _ _ _ (hw 255) (hd 255 (by decide)), List.length_replicate, if_pos (by decide)]
    exact beq_self_eq_true _
  · rw [specOkF, c15_destroy_countLowByte _ _ _ (hw 256) (hd 256 (by decide)), List.length_replicate, if_neg (by decide)]
    rfl

/-! ## the handler: no panic, purity, accept-or-reject, envelope -/

/-- No conversion panics, whatever the request (any module length, any field value, unset `oneof`). -/
theorem c15_convert_no_panic (gsi : Nat) (pl : Payload) : convert gsi pl ≠ .panic := convert_ne_panic gsi pl

/-- `InjectGovernanceVAA` never panics: for every configuration, request (of any size and field values) and history. -/
theorem c15_no_panic (chan : List Vaa) (cfg : Cfg) (req : Req) : (injectFrom chan cfg req).2 ≠ .panic :=
  injectLoop_ne_panic cfg req req.msgs chan

/-- Purity: what a request injects and returns does not depend on what the service did before — it is a function of the
configuration and the request only. -/
theorem c15_pure (chan : List Vaa) (cfg : Cfg) (req : Req) :
    injectFrom chan cfg req = (chan ++ (inject cfg req).1, (inject cfg req).2) :=
  injectLoop_chan cfg req req.msgs chan

/-- `SigningMsg` for an arbitrary hash `H` (Keccak-256 in the code, never modelled; see C04). -/
def signingMsg (H : Bytes → Bytes) (v : Vaa) : Bytes := H (H (serializeBody v.body))

/-- Two operators with the same configuration injecting the same request — whatever their nodes did before — push the
same VAAs, get the same answer and therefore sign the same digests. -/
theorem c15_same_digest (H : Bytes → Bytes) (chan₁ chan₂ : List Vaa) (cfg : Cfg) (req : Req) :
    ((injectFrom chan₁ cfg req).1.drop chan₁.length).map (signingMsg H) =
      ((injectFrom chan₂ cfg req).1.drop chan₂.length).map (signingMsg H) ∧
    (injectFrom chan₁ cfg req).2 = (injectFrom chan₂ cfg req).2 := by
  rw [c15_pure chan₁, c15_pure chan₂]
  simp

/-- What holds of every message/VAA pair the handler produces. -/
def Good (cfg : Cfg) (req : Req) (m : Msg) (v : Vaa) : Prop :=
  m.targetChain < 2 ^ 16 ∧
  (∃ p, convert req.currentSetIndex m.payload = .ok p ∧
        v = createGovernanceVaa cfg req.timestamp m.nonce m.sequence m.targetChain req.currentSetIndex p) ∧
  envOk cfg req m v = true ∧
  specOk req.currentSetIndex m.payload v.body.payload = true ∧
  v.body.WF

/-- `AllGood cfg req msgs sent`: the VAAs pair off with the first messages, and each pair is `Good`. -/
def AllGood (cfg : Cfg) (req : Req) : List Msg → List Vaa → Prop
  | _, [] => True
  | [], _ :: _ => False
  | m :: ms, v :: vs => Good cfg req m v ∧ AllGood cfg req ms vs

private theorem injectOne_good (cfg : Cfg) (req : Req) (m : Msg) (v : Vaa) (hc : cfg.WF) (hr : req.WF) (hm : m.WF) :
    injectOne cfg req m = .ok v → Good cfg req m v := by
  fun_cases injectOne cfg req m <;> intro h <;> cases h
  next htc p hp =>
    have htc' : m.targetChain < 2 ^ 16 := Nat.lt_of_not_le htc
    rw [Nat.mod_eq_of_lt htc']
    obtain ⟨hs, hn, _, hpw⟩ := hm
    -- timestamp, nonce, emitter chain, target chain, emitter, sequence, consistency level 32; the bounds of `Req.WF` / `Msg.WF`
    -- (`2 ^ 32`, …) and of `Body.WF` (`256 ^ 4`, …) are the same numbers by evaluation
    have hwf : (createGovernanceVaa cfg req.timestamp m.nonce m.sequence m.targetChain req.currentSetIndex p).body.WF :=
      ⟨hr.2.1, hn, hc.1, htc', hc.2, hs, (by decide : 32 < 256 ^ 1)⟩
    exact ⟨htc', ⟨p, hp, rfl⟩, by simp [envOk, createGovernanceVaa], c15_spec_sound _ _ _ hr.1 hpw hp, hwf⟩

private theorem injectLoop_good (cfg : Cfg) (req : Req) (hc : cfg.WF) (hr : req.WF) (ms : List Msg) (hm : ∀ m ∈ ms, m.WF) :
    AllGood cfg req ms (injectLoop cfg req ms []).1 ∧
    ((injectLoop cfg req ms []).2 = .ok → (injectLoop cfg req ms []).1.length = ms.length) ∧
    (∀ c e, (injectLoop cfg req ms []).2 = .err c e → (injectLoop cfg req ms []).1.length < ms.length) := by
  induction ms with
  | nil => simp [injectLoop, AllGood]
  | cons m ms ih =>
    obtain ⟨hm0, hms⟩ := List.forall_mem_cons.1 hm
    obtain ⟨f, hok, herr⟩ := ih hms
    unfold injectLoop
    split
    · next v hv =>
      rw [injectLoop_chan cfg req ms ([] ++ [v])]
      exact ⟨⟨injectOne_good cfg req m v hc hr hm0 hv, f⟩, fun h => by simpa using hok h,
        fun c e h => by simpa using herr c e h⟩
    · next r hrej =>
      obtain ⟨c, e, rfl⟩ := injectOne_error hrej
      exact ⟨by simp [AllGood], nofun, fun _ _ _ => by simp⟩

/-- Accept-or-reject, message by message: on an in-range request and configuration, every VAA the handler pushes (also
the ones pushed before a later message was rejected) pairs with its message, comes from the configured emitter, carries
the requested target chain / sequence / nonce / set index un-wrapped, has an in-range body (so C04/C05 apply to it),
and a payload the contract parser decodes back to the request; an accepted request produced one VAA per message and a
rejected one strictly fewer. -/
theorem c15_injected_good (cfg : Cfg) (req : Req) (hc : cfg.WF) (hr : req.WF) :
    AllGood cfg req req.msgs (inject cfg req).1 ∧
    ((inject cfg req).2 = .ok → (inject cfg req).1.length = req.msgs.length) ∧
    (∀ c e, (inject cfg req).2 = .err c e → (inject cfg req).1.length < req.msgs.length) :=
  injectLoop_good cfg req hc hr req.msgs hr.2.2

/-- **What an accepted request hands to the processor.** If `InjectGovernanceVAA` returns success, the VAAs it pushed on the
injection channel are - in message order, one per message, none twice, none missing - exactly the VAAs of its messages (the ones
whose digests it returns). -/
theorem c15_accepted_handover_exact (cfg : Cfg) (req : Req) (h : (inject cfg req).2 = .ok) :
    req.msgs.map (injectOne cfg req) = (inject cfg req).1.map .ok := by
  have hp : injectLoop cfg req req.msgs [] = ((inject cfg req).1, .ok) := by
    rw [← h]
    rfl
  obtain ⟨vs, ho, hf⟩ := injectLoop_ok_inv cfg req req.msgs [] _ hp
  rw [ho]
  simpa using hf

/-- Every request is either rejected with a status or accepted; nothing else can happen. -/
theorem c15_accept_or_reject (cfg : Cfg) (req : Req) :
    (inject cfg req).2 = .ok ∨ ∃ c e, (inject cfg req).2 = .err c e := by
  have := c15_no_panic [] cfg req
  unfold inject
  cases h : (injectFrom [] cfg req).2 with
  | ok => exact Or.inl rfl
  | err c e => exact Or.inr ⟨c, e, rfl⟩
  | panic => exact (this h).elim

/-- A message whose target chain does not fit the 16-bit wire field is rejected, never wrapped. -/
theorem c15_target_chain_checked (cfg : Cfg) (req : Req) (m : Msg) (h : m.targetChain > 65535) :
    ∃ e, injectOne cfg req m = .error (.err grpcUnknown e) := by
  unfold injectOne
  rw [if_pos h]
  exact ⟨_, rfl⟩

/-- Non-vacuity: a two-message request (fee update to chain 255, consistency level 255 to chain 65535) is accepted on a
concrete configuration and yields two VAAs. -/
def sampleCfg : Cfg := ⟨1, List.replicate 31 0 ++ [4]⟩
def sampleReq : Req :=
  { currentSetIndex := 3, timestamp := 1700000000,
    msgs := [⟨2 ^ 64 - 1, 7, 255, .updateMessageFee sampleFee⟩, ⟨5, 2 ^ 32 - 1, 65535, .minConsistency 255⟩] }
example : sampleCfg.WF ∧ (inject sampleCfg sampleReq).2 = .ok ∧ (inject sampleCfg sampleReq).1.length = 2 := by
  refine ⟨by decide +kernel, by decide +kernel, by decide +kernel⟩
example : sampleReq.msgs.map (injectOne sampleCfg sampleReq) = (inject sampleCfg sampleReq).1.map .ok :=
  c15_accepted_handover_exact sampleCfg sampleReq (by decide +kernel)

end Whv.C15
