import Whv.Lemmas.AlphWatch
/-!
# C08 — Alephium messages reach the signer only when final and from the token bridge

Model: `Whv/Model/AlphWatch.lean` (`isEventConfirmed`, `process`, `handleConfirmed`, `handleUnconfirmed`,
`reobserve`), following watcher.go / reobserve.go / client.go with the repairs of `/verif/fixes/C08-*.diff`.
The node's answers (`Oracle`, `ReobsNode`, the token-metadata answers) are parameters: every theorem says
"at that moment the node said …", which is all a watcher can know.  All theorems hold for every pending
set, every oracle, every height / clock value and every sequence of operations.
-/
namespace Whv.C08
open Whv Whv.Alph

/-- The statement's finality conditions, in unbounded arithmetic: enough blocks on top, and for a mainnet
token transfer at least `max(cl, 205)` block intervals of wall-clock time since the block's timestamp. -/
def Final (mainnet : Bool) (m : Msg) (h : Header) (height now : Int) : Prop :=
  h.height + m.cl ≤ height ∧
  (mainnet = true → isTransfer m = true → h.ts + ((max m.cl 205 : Nat) : Int) * 16000 ≤ now)

/-- `isEventConfirmed` implies the statement's conditions (and the code's own floor `cl` block intervals for
every other message). -/
theorem confirmed_final {m : Msg} {h : Header} {now height : Int} {mainnet : Bool} (hr : InRange m.cl h)
    (hc : isEventConfirmed m h now height mainnet = true) :
    Final mainnet m h height now ∧ h.ts + (m.cl : Int) * 16000 ≤ now := by
  obtain ⟨h1, h2⟩ := (isEventConfirmed_iff hr).1 hc
  have hge := (confDur_bounds mainnet (isTransfer m) m.cl).1
  refine ⟨⟨h1, fun hm ht => ?_⟩, by omega⟩
  subst hm
  rw [ht, confDur_mainnet_transfer] at h2
  omega

example : isEventConfirmed ⟨[], 2, 0, 0, 3, [1]⟩ ⟨100, 1000⟩ (1000 + 205 * 16000) 103 true = true := by decide +kernel
example : isEventConfirmed ⟨[], 2, 0, 0, 3, [1]⟩ ⟨100, 1000⟩ (1000 + 205 * 16000 - 1) 103 true = false := by decide +kernel
example : InRange 3 ⟨100, 1000⟩ := by unfold InRange; decide

/-- `getConfirmationDuration`: a mainnet transfer waits `max(cl, 205)` block intervals. -/
theorem mainnet_transfer_duration (cl : Nat) : confDur true true cl = max cl 205 * 16000 ∧ 205 * 16000 ≤ confDur true true cl := by
  rw [confDur_mainnet_transfer]
  exact ⟨rfl, Nat.mul_le_mul_right _ (Nat.le_max_right _ _)⟩

example : confDur true true 0 = 3280000 ∧ confDur true true 255 = 4080000 ∧ confDur false true 0 = 0 := by decide +kernel

/-- **Polling path.** Whatever one height tick hands to the signer was pending, has event index 0, names the token
bridge as sender, sits in a block the node called canonical *in this very call*, and passed `isEventConfirmed` under the
header used for that block, with this call's height and clock. -/
theorem poll_forwarded (cfg : Cfg) (o : Oracle) (height now : Int) (s : WState) (c : Unconf × Header)
    (hc : c ∈ (stepHeight cfg o height now s).2) :
    ∃ pb ∈ s.pending, c.1 ∈ pb.evs ∧ headerOf o pb = some c.2 ∧ o.main pb.block = some true ∧
      c.1.ev.idx = 0 ∧ c.1.msg.sender = cfg.bridge ∧
      isEventConfirmed c.1.msg c.2 now height cfg.mainnet = true := by
  cases hp : process cfg o height now s.pending with
  | none =>  -- an API error: nothing is forwarded
    rw [stepHeight_none hp] at hc
    cases hc
  | some r =>
    obtain ⟨pend, conf⟩ := r
    rw [(stepHeight_some hp).2.1] at hc
    obtain ⟨hin, hidx, hsender⟩ := handleConfirmed_mem cfg conf c hc
    obtain ⟨u, h⟩ := c
    obtain ⟨pb, hpb, hu, hh, hm, hcf⟩ := (mem_process_conf_iff hp u h).1 hin
    exact ⟨pb, hpb, hu, hh, hm, hidx, hsender, hcf⟩

/-- The same, spelled out in the statement's arithmetic for realistic heights and timestamps, for the message
publication that reaches the signing pipeline. -/
theorem poll_forwarded_final (cfg : Cfg) (o : Oracle) (height now : Int) (s : WState) (p : Pub)
    (hp : p ∈ ((stepHeight cfg o height now s).2.map pubOf))
    (hr : ∀ pb ∈ s.pending, ∀ u ∈ pb.evs, ∀ h, headerOf o pb = some h → InRange u.msg.cl h) :
    ∃ pb ∈ s.pending, ∃ u ∈ pb.evs, ∃ h, headerOf o pb = some h ∧ p = toPub u.ev.tx u.msg h ∧
      o.main pb.block = some true ∧ u.ev.idx = 0 ∧ u.msg.sender = cfg.bridge ∧ p.emitter = cfg.bridge ∧
      Final cfg.mainnet u.msg h height now := by
  obtain ⟨c, hc, rfl⟩ := List.mem_map.1 hp
  obtain ⟨pb, hpb, hu, hh, hm, hidx, hs, hcf⟩ := poll_forwarded cfg o height now s c hc
  exact ⟨pb, hpb, c.1, hu, c.2, hh, rfl, hm, hidx, hs, hs, (confirmed_final (hr pb hpb c.1 hu c.2 hh) hcf).1⟩

/-- **Polling path, height source included.** With the real height poller in front of the event loop, whatever a tick
forwards satisfies the conjunction of `poll_forwarded` for the height the node reported *in this tick* — not for any
height it reported earlier. -/
theorem polled_forwarded (cfg : Cfg) (o : Oracle) (latest : Option Int) (now : Int) (s : WState) (c : Unconf × Header)
    (hc : c ∈ (stepPolled cfg o latest now s).2) :
    ∃ height, latest = some height ∧ ∃ pb ∈ s.pending, c.1 ∈ pb.evs ∧ headerOf o pb = some c.2 ∧ o.main pb.block = some true ∧
      c.1.ev.idx = 0 ∧ c.1.msg.sender = cfg.bridge ∧
      isEventConfirmed c.1.msg c.2 now height cfg.mainnet = true := by
  cases latest with
  | none => simp [stepPolled] at hc
  | some height => exact ⟨height, rfl, poll_forwarded cfg o height now s c hc⟩

private def exBridge : Bytes := [7]
private def exCfg : Cfg := { mainnet := true, bridge := exBridge, gov := "gov" }
private def exMsg : Msg := ⟨exBridge, 2, 5, 9, 1, [1, 0]⟩
private def exEv : Event := ⟨0, "b1", "t1", 0, "-", some exMsg⟩
private def exState : WState := { pending := [⟨"b1", none, [⟨exEv, exMsg⟩]⟩], enabled := true }
private def exOracle : Oracle := { main := fun _ => some true, hdr := fun _ => some ⟨100, 0⟩ }
example : (stepHeight exCfg exOracle 101 3280000 exState).2 = [(⟨exEv, exMsg⟩, ⟨100, 0⟩)] := by decide +kernel
example : (stepHeight exCfg exOracle 101 3279999 exState).2 = [] := by decide +kernel
example : (stepHeight exCfg exOracle 100 3280000 exState).2 = [] := by decide +kernel
-- the node reported 101 earlier and reports 100 now: nothing is forwarded on the strength of the earlier answer
example : (stepPolled exCfg exOracle (some 100) 3280000 (stepPolled exCfg exOracle (some 101) 0 exState).1).2 = [] := by decide +kernel
example : (stepPolled exCfg exOracle (some 101) 3280000 exState).2 = [(⟨exEv, exMsg⟩, ⟨100, 0⟩)] := by decide +kernel

/-- What the fetch loop lets through was served by the node, has event index 0, converts, and — for a token
attestation — carries exactly the metadata the token contract reported when asked. -/
theorem fetched_attest_valid (ans : Bytes → TiAns) (evs : List Event) (u : Unconf)
    (hu : u ∈ handleUnconfirmed ans evs) :
    u.ev ∈ evs ∧ u.ev.idx = 0 ∧ u.ev.conv = some u.msg ∧
      (isAttest u.msg = true → ∃ ti, parseAttest u.msg.payload = some ti ∧ getTokenInfo ans ti.tokenId = some ti) := by
  obtain ⟨he, hidx, hconv, hval⟩ := mem_handleUnconfirmed.1 hu
  exact ⟨he, hidx, hconv, fun ha => validateAttest_eq_true.1 (hval ha)⟩

/-! ## token metadata that changes during the watcher's life

"… only if, *at that moment*, … the attested metadata equals what the token contract itself reports": the token contracts'
answers are an input of every page the fetch loop converts and of every re-observation request, and they may differ from one
call to the next.  Over any history of pages — each with the answers of its own time — what is let through is judged by the
answers of that page alone. -/

/-- what the fetch side lets through over a history of pages, each with the token contracts' answers at that time -/
def deliveredOver (hist : List ((Bytes → TiAns) × List Event)) : List (List Unconf) :=
  hist.map fun p => handleUnconfirmed p.1 p.2

/-- **Attestations are judged by the current answers.** Whatever the token contracts answered before and will answer later,
an attestation let through by the `i`-th page of a history equals what its token contract reports in that page's call. -/
theorem attest_judged_by_current_answers (hist : List ((Bytes → TiAns) × List Event)) (i : Nat) (ans : Bytes → TiAns)
    (evs : List Event) (hi : hist[i]? = some (ans, evs)) :
    (deliveredOver hist)[i]? = some (handleUnconfirmed ans evs) ∧
      ∀ u ∈ handleUnconfirmed ans evs, isAttest u.msg = true → validateAttest ans u.msg = true :=
  ⟨by simp [deliveredOver, List.getElem?_map, hi], fun u hu => (mem_handleUnconfirmed.1 hu).2.2.2⟩

/-- An attestation of values the token contract does not report (any more) is not let through, however often the same
payload was let through before. -/
theorem stale_attest_dropped (ans : Bytes → TiAns) (evs : List Event) (u : Unconf)
    (ha : isAttest u.msg = true) (hv : validateAttest ans u.msg = false) : u ∉ handleUnconfirmed ans evs := by
  intro hu
  have := (mem_handleUnconfirmed.1 hu).2.2.2 ha
  rw [hv] at this
  cases this

-- `mc…`: a token whose metadata changes.  An attestation payload is `2 ‖ tokenId(32) ‖ chain 00ff ‖ decimals ‖ symbol(32) ‖
-- name(32)`; the name is `B` throughout
private def mcTok : Bytes := List.replicate 31 0 ++ [9]
private def mcAttest (sym dec : UInt8) : Bytes :=
  [2] ++ mcTok ++ [0, 255, dec] ++ (List.replicate 31 0 ++ [sym]) ++ (List.replicate 31 0 ++ [66])
private def mcMsg (seq : Nat) (sym dec : UInt8) : Msg := ⟨[7], 0, 0, seq, 0, mcAttest sym dec⟩
private def mcTi (sym : UInt8) (dec : Nat) : Bytes → TiAns :=
  fun _ => .results [.ok [.bytes (some [sym])], .ok [.bytes (some [66])], .ok [.u256 (some dec)]]
private def mcEv (id : Nat) (tx : String) (m : Msg) : Event := ⟨id, "b", tx, 0, "gov", some m⟩
private def mcUnconf (id : Nat) (tx : String) (m : Msg) : Unconf := ⟨mcEv id tx m, m⟩

/-- **Remembering the first answer lets a stale attestation through and drops the current one** — the witness.  Token `…09`
reports symbol `A`, 8 decimals; the token bridge's attestation of that is let through.  Then the contract reports symbol `C`,
6 decimals.  The watcher that asks every time drops a new attestation of (`A`, 8) and lets the one of (`C`, 6) through; the
watcher that remembers its first look-up does the opposite. -/
theorem remembered_answers_go_stale :
    handleUnconfirmed (mcTi 65 8) [mcEv 0 "t0" (mcMsg 1 65 8)] = [mcUnconf 0 "t0" (mcMsg 1 65 8)] ∧
    handleUnconfirmed (mcTi 67 6) [mcEv 1 "t1" (mcMsg 2 65 8), mcEv 2 "t2" (mcMsg 3 67 6)] = [mcUnconf 2 "t2" (mcMsg 3 67 6)] ∧
    (handleUnconfirmedRemembering [] (mcTi 65 8) [mcEv 0 "t0" (mcMsg 1 65 8)]).1 = [mcUnconf 0 "t0" (mcMsg 1 65 8)] ∧
    (handleUnconfirmedRemembering (handleUnconfirmedRemembering [] (mcTi 65 8) [mcEv 0 "t0" (mcMsg 1 65 8)]).2 (mcTi 67 6)
        [mcEv 1 "t1" (mcMsg 2 65 8), mcEv 2 "t2" (mcMsg 3 67 6)]).1 = [mcUnconf 1 "t1" (mcMsg 2 65 8)] ∧
    validateAttest (mcTi 67 6) (mcMsg 2 65 8) = false ∧ validateAttest (mcTi 67 6) (mcMsg 3 67 6) = true := by
  decide +kernel

-- a two-page history in which the contract's answers change: hypotheses of the theorems above on the witness
example : [(mcTi 65 8, [mcEv 0 "t0" (mcMsg 1 65 8)]), (mcTi 67 6, [mcEv 1 "t1" (mcMsg 2 65 8), mcEv 2 "t2" (mcMsg 3 67 6)])][1]?
    = some (mcTi 67 6, [mcEv 1 "t1" (mcMsg 2 65 8), mcEv 2 "t2" (mcMsg 3 67 6)]) := rfl
example : isAttest (mcMsg 2 65 8) = true ∧ validateAttest (mcTi 67 6) (mcMsg 2 65 8) = false := by decide +kernel

/-- Events of an orphaned block: once confirmed they are neither handed on nor kept. -/
theorem orphan_dropped {cfg : Cfg} {o : Oracle} {height now : Int} {pending pend : List PBlock}
    {conf : List (Unconf × Header)} (hp : process cfg o height now pending = some (pend, conf))
    (hnd : (pendIds pending).Nodup)
    {pb : PBlock} (hpb : pb ∈ pending) (hm : o.main pb.block = some false)
    {u : Unconf} (hu : u ∈ pb.evs) {h : Header} (hh : headerOf o pb = some h)
    (hcf : confirmedIn cfg h height now u = true) :
    u.ev.id ∉ confIds conf ∧ u.ev.id ∉ pendIds pend := by
  have hpart := process_partition hp u.ev.id
  have hle : (pendIds pending).count u.ev.id ≤ 1 := List.nodup_iff_count.1 hnd _
  have hdrop : 0 < (pending.flatMap (dropIds cfg o height now)).count u.ev.id := by
    apply List.count_pos_iff.2
    refine List.mem_flatMap.2 ⟨pb, hpb, ?_⟩
    simp only [dropIds, hm, hh, evIds]
    exact List.mem_map.2 ⟨u, List.mem_filter.2 ⟨hu, hcf⟩, rfl⟩
  -- the id occurs once among the pending (`hle`) and that copy is dropped (`hdrop`): by `hpart` it is in neither result
  exact ⟨List.count_eq_zero.1 (by omega), List.count_eq_zero.1 (by omega)⟩

private def exOrphan : Oracle := { main := fun _ => some false, hdr := fun _ => some ⟨100, 0⟩ }
example : process exCfg exOrphan 101 3280000 exState.pending = some ([], []) := by decide +kernel

/-! ### at most once: histories of batches and height ticks -/

/-- what happens to the `handleEvents` loop: a batch of fetched events arrives, or a height tick -/
inductive Op where
  | batch (us : List Unconf)
  | height (o : Oracle) (height now : Int)

def stepOp (cfg : Cfg) (s : WState) : Op → WState × List (Unconf × Header)
  | .batch us => if s.alive then (stepBatch s us, []) else (s, [])
  | .height o height now => if s.alive then stepHeight cfg o height now s else (s, [])

/-- run a sequence of operations, collecting everything handed to the signer -/
def run (cfg : Cfg) : WState → List Op → WState × List (Unconf × Header)
  | s, [] => (s, [])
  | s, op :: rest =>
    let r := stepOp cfg s op
    let r' := run cfg r.1 rest
    (r'.1, r.2 ++ r'.2)

/-- ids of the events that arrive at the event loop (not of what it hands on) -/
def delivered : List Op → List Nat
  | [] => []
  | .batch us :: rest => evIds us ++ delivered rest
  | .height _ _ _ :: rest => delivered rest

/-! ### … and of restarts of `Run` on the same `Watcher` value

The supervisor starts `Run` again after every error that reaches `errC` (and whenever it restarts a healthy group).  The loops
of the new incarnation share the `Watcher` value with the old one; `restartW` says what they inherit: nothing but the poller
flag.  The history of a watcher is then a sequence of batches, height ticks and restarts. -/

inductive LifeOp where
  | op (o : Op)
  | restart (count0 : Option Int)

def stepLife (cfg : Cfg) (s : WState) : LifeOp → WState × List (Unconf × Header)
  | .op o => stepOp cfg s o
  | .restart count0 => (restartW s count0, [])

/-- run a history with restarts, collecting everything handed to the signer by all incarnations -/
def runLife (cfg : Cfg) : WState → List LifeOp → WState × List (Unconf × Header)
  | s, [] => (s, [])
  | s, op :: rest =>
    let r := stepLife cfg s op
    let r' := runLife cfg r.1 rest
    (r'.1, r.2 ++ r'.2)

/-- ids of the events fetched and delivered to the event loop, over all incarnations -/
def deliveredLife : List LifeOp → List Nat
  | [] => []
  | .op o :: rest => delivered [o] ++ deliveredLife rest
  | .restart _ :: rest => deliveredLife rest

/-! ### no step raises the number of copies of an id that are pending or handed on -/

private theorem stepHeight_count (cfg : Cfg) (o : Oracle) (height now : Int) (s : WState) (x : Nat) :
    (pendIds (stepHeight cfg o height now s).1.pending).count x + (confIds (stepHeight cfg o height now s).2).count x
      ≤ (pendIds s.pending).count x := by
  cases hp : process cfg o height now s.pending with
  | none =>
    rw [stepHeight_none hp]
    simp [confIds]
  | some r =>
    obtain ⟨pend, conf⟩ := r
    obtain ⟨h1, h2, _⟩ := stepHeight_some hp
    rw [h1, h2]
    have hc := process_partition hp x
    have hs := (handleConfirmed_sublist cfg conf).map (fun c => c.1.ev.id)
    have := hs.count_le x
    simp only [confIds] at hc ⊢
    omega

private theorem deliveredLife_cons (op : LifeOp) (rest : List LifeOp) :
    deliveredLife (op :: rest) = deliveredLife [op] ++ deliveredLife rest := by
  cases op <;> simp [deliveredLife]

private theorem stepLife_count (cfg : Cfg) (s : WState) (op : LifeOp) (x : Nat) :
    (pendIds (stepLife cfg s op).1.pending).count x + (confIds (stepLife cfg s op).2).count x
      ≤ (pendIds s.pending).count x + (deliveredLife [op]).count x := by
  rcases op with (us | ⟨o, height, now⟩) | c
  · -- a batch: it is filed (`addBatch_count`), or ignored by a watcher that has ended
    cases ha : s.alive <;> simp [stepLife, stepOp, ha, confIds, deliveredLife, delivered, stepBatch, addBatch_count]
  · -- a height tick
    cases ha : s.alive
    · simp [stepLife, stepOp, ha, confIds]
    · have := stepHeight_count cfg o height now s x
      simpa [stepLife, stepOp, ha, deliveredLife, delivered] using this
  · -- a restart: nothing is pending afterwards
    cases c <;> simp [stepLife, restartW, confIds, deliveredLife]

private theorem runLife_count (cfg : Cfg) (ops : List LifeOp) (s : WState) (x : Nat) :
    (pendIds (runLife cfg s ops).1.pending).count x + (confIds (runLife cfg s ops).2).count x
      ≤ (pendIds s.pending).count x + (deliveredLife ops).count x := by
  induction ops generalizing s with
  | nil => simp [runLife, deliveredLife, confIds]
  | cons op rest ih =>
    have ihr := ih (stepLife cfg s op).1
    have hs := stepLife_count cfg s op x
    rw [deliveredLife_cons]
    simp only [runLife, confIds_append, List.count_append]
    omega

/-- **At most once, restarts included.** Over any history of batches, height ticks and restarts of `Run` on the same
`Watcher` value (after an API error at any call, or a cancellation), no fetched event is handed to the signer twice — by the
same incarnation or by two different ones — provided no event is *fetched* twice (`restart_fetches_fresh` in C09: a new
incarnation starts at the count it polls, above everything its predecessors fetched). -/
theorem at_most_once_restarts (cfg : Cfg) (ops : List LifeOp) (hnd : (deliveredLife ops).Nodup) :
    (confIds (runLife cfg {} ops).2).Nodup := by
  apply List.nodup_iff_count.2
  intro x
  have h := runLife_count cfg ops {} x
  have hd : (deliveredLife ops).count x ≤ 1 := List.nodup_iff_count.1 hnd x
  simp only [pendIds_nil, List.count_nil] at h
  omega

private theorem run_eq_runLife (cfg : Cfg) (s : WState) (ops : List Op) :
    run cfg s ops = runLife cfg s (ops.map .op) := by
  induction ops generalizing s with
  | nil => rfl
  | cons op rest ih => simp only [run, runLife, stepLife, List.map_cons, ih]

private theorem delivered_eq_deliveredLife (ops : List Op) : delivered ops = deliveredLife (ops.map .op) := by
  induction ops with
  | nil => rfl
  | cons op rest ih =>
    rw [List.map_cons, deliveredLife, ← ih]
    cases op <;> simp [delivered]

/-- **At most once.** Over any sequence of batches and height ticks (any oracles, reorgs, stalls), starting from
an empty watcher, no fetched event is handed to the signer twice. -/
theorem at_most_once (cfg : Cfg) (ops : List Op) (hnd : (delivered ops).Nodup) :
    (confIds (run cfg {} ops).2).Nodup := by
  rw [run_eq_runLife]
  exact at_most_once_restarts cfg _ (delivered_eq_deliveredLife ops ▸ hnd)

example : (confIds (run exCfg {} [.batch [⟨exEv, exMsg⟩], .height exOracle 101 3280000, .height exOracle 102 3280001]).2) = [0] := by decide +kernel

/-- A restart forgets the pending events and every fetch index: the new incarnation starts at the polled count. -/
theorem restart_state (s : WState) (c : Int) :
    (restartW s (some c)).pending = [] ∧ (restartW s (some c)).fromIndex = c ∧ (restartW s (some c)).alive = true ∧
      (restartW s (some c)).enabled = s.enabled := ⟨rfl, rfl, rfl, rfl⟩

example : (confIds (runLife exCfg {} [.op (.batch [⟨exEv, exMsg⟩]), .op (.height exOracle 101 3280000), .restart (some 1),
    .op (.height exOracle 102 3280001)]).2) = [0] := by decide +kernel
-- the hypothesis is needed: an incarnation that fetched the same log position again would forward it again
example : (confIds (runLife exCfg {} [.op (.batch [⟨exEv, exMsg⟩]), .op (.height exOracle 101 3280000), .restart (some 1),
    .op (.batch [⟨exEv, exMsg⟩]), .op (.height exOracle 102 3280001)]).2) = [0, 0] := by decide +kernel

/-- **Re-observation path.** A message handed to the signer by a re-observation request comes from an event of
the requested transaction with event index 0, *emitted by the configured governance contract*, contained in the
block the node reports the transaction confirmed in, which the node called canonical in this very call; its sender
is the token bridge; it passed `isEventConfirmed` (height and wall-clock floor) against the height answered in this
call; an attestation carries the metadata the token contract reported. -/
theorem reobserve_forwarded (cfg : Cfg) (node : ReobsNode) (now : Int) (chain hashLen : Nat) (tx : Hash) (p : Pub)
    (hp : p ∈ reobserve cfg node now chain hashLen tx) :
    ∃ bh evs e m h height, chain = ChainIdAlephium ∧ hashLen = 32 ∧
      node.status = some (.confirmed bh) ∧ node.txEvents = some evs ∧ e ∈ evs ∧
      e.idx = 0 ∧ e.contract = cfg.gov ∧ e.block = bh ∧ node.main bh = some true ∧ node.hdr bh = some h ∧
      e.conv = some m ∧ m.sender = cfg.bridge ∧ node.height = some height ∧
      isEventConfirmed m h now height cfg.mainnet = true ∧
      (isAttest m = true → validateAttest node.ti m = true) ∧ p = toPub tx m h := by
  obtain ⟨hchain, hlen, bh, evs, cands, height, hst, hev, hg, hmain, hheight, c, hc, hcf, hs, rfl⟩ := mem_reobserve.1 hp
  obtain ⟨hin, hidx, hgov, hblock, hhdr, hconv, hatt⟩ := (mem_govEvents hg c).1 hc
  exact ⟨bh, evs, c.1.ev, c.1.msg, c.2, height, hchain, hlen, hst, hev, hin, hidx, hgov, hblock, hmain, hhdr, hconv, hs,
    hheight, hcf, hatt, rfl⟩

/-- … and therefore the statement's finality conditions hold on the re-observation path as well. -/
theorem reobserve_final (cfg : Cfg) (node : ReobsNode) (now : Int) (chain hashLen : Nat) (tx : Hash) (p : Pub)
    (hp : p ∈ reobserve cfg node now chain hashLen tx)
    (hr : ∀ bh h, node.hdr bh = some h → ∀ cl, cl ≤ 255 → InRange cl h) (hcl : ∀ evs, node.txEvents = some evs → ∀ e ∈ evs, ∀ m, e.conv = some m → m.cl ≤ 255) :
    ∃ bh h height m, node.main bh = some true ∧ node.hdr bh = some h ∧ node.height = some height ∧
      p = toPub tx m h ∧ p.emitter = cfg.bridge ∧ Final cfg.mainnet m h height now := by
  obtain ⟨bh, evs, e, m, h, height, _, _, _, hev, hin, _, _, _, hmain, hhdr, hconv, hs, hheight, hcf, _, rfl⟩ :=
    reobserve_forwarded cfg node now chain hashLen tx p hp
  exact ⟨bh, h, height, m, hmain, hhdr, hheight, rfl, hs, (confirmed_final (hr bh h hhdr m.cl (hcl evs hev e hin m hconv)) hcf).1⟩

private def exNode (contract : String) (ts : Int) : ReobsNode :=
  { status := some (.confirmed "b1"), txEvents := some [{ exEv with contract := contract }],
    hdr := fun _ => some ⟨100, ts⟩, main := fun _ => some true, height := some 101, ti := fun _ => .apiErr }
example : reobserve exCfg (exNode "gov" 0) 3280000 255 32 "t1" = [toPub "t1" exMsg ⟨100, 0⟩] := by decide +kernel
-- a look-alike event of another contract in the same transaction, or a block seconds old, is not forwarded:
example : reobserve exCfg (exNode "other" 0) 3280000 255 32 "t1" = [] := by decide +kernel
example : reobserve exCfg (exNode "gov" 3000000) 3280000 255 32 "t1" = [] := by decide +kernel

/-- As `attest_judged_by_current_answers`, on the re-observation path: a request hands an attestation to the signer only if it equals what the token
contract reports in this very request (`node.ti`), whatever earlier requests or pages were answered. -/
theorem reobserve_attest_current (cfg : Cfg) (node : ReobsNode) (now : Int) (chain hashLen : Nat) (tx : Hash) (p : Pub)
    (hp : p ∈ reobserve cfg node now chain hashLen tx) :
    ∃ m h, p = toPub tx m h ∧ (isAttest m = true → validateAttest node.ti m = true) := by
  obtain ⟨_, _, _, m, h, _, _, _, _, _, _, _, _, _, _, _, _, _, _, _, hatt, rfl⟩ :=
    reobserve_forwarded cfg node now chain hashLen tx p hp
  exact ⟨m, h, rfl, hatt⟩

private def mcNode (ti : Bytes → TiAns) : ReobsNode :=
  { status := some (.confirmed "b"), txEvents := some [mcEv 0 "t0" (mcMsg 1 65 8)],
    hdr := fun _ => some ⟨100, 0⟩, main := fun _ => some true, height := some 101, ti := ti }
example : reobserve ⟨false, [7], "gov"⟩ (mcNode (mcTi 65 8)) 0 255 32 "t0" = [toPub "t0" (mcMsg 1 65 8) ⟨100, 0⟩] := by decide +kernel
-- the same transaction re-observed after the contract has begun to report something else: nothing is handed over
example : reobserve ⟨false, [7], "gov"⟩ (mcNode (mcTi 67 6)) 0 255 32 "t0" = [] := by decide +kernel

/-! ## the constructor: the floor in force on a real node -/

/-- **The floor does not come from the configuration.** A watcher built by `NewAlephiumWatcher` takes the two contract
ids and the group index from `configs/alephium/<network>.json` and nothing else; started with the mainnet flag it holds
every token transfer for `max(cl, 205)` block intervals, whatever else the file says. -/
theorem constructed_floor (toAddr : Bytes → String) (cc : ChainCfg) (b : Built)
    (h : newWatcher toAddr cc true = some b) (cl : Nat) :
    confDur b.cfg.mainnet true cl = max cl 205 * 16000 ∧ cc.tokenBridge = some b.cfg.bridge ∧
      (∃ g, cc.governance = some g ∧ b.cfg.gov = toAddr g) ∧ b.group = cc.groupIndex := by
  obtain ⟨g, br, hg, hb, rfl⟩ := newWatcher_eq_some.1 h
  exact ⟨confDur_mainnet_transfer cl, hb, ⟨g, hg, rfl⟩, rfl⟩

/-- … in particular the file's `minimalConsistencyLevel` (the minimum the token-bridge *contract* accepts: 105 in the
shipped mainnet file, 10 in the other two) has no influence on the watcher that is built. -/
theorem constructed_ignores_minimal (toAddr : Bytes → String) (cc : ChainCfg) (k : Nat) (mainnet : Bool) :
    newWatcher toAddr { cc with minimalConsistencyLevel := k } mainnet = newWatcher toAddr cc mainnet := rfl

/-- A transfer confirmed by a watcher that the constructor built for mainnet is at least `max(cl, 205)` block intervals old. -/
theorem constructed_confirmed_final (toAddr : Bytes → String) (cc : ChainCfg) (b : Built)
    (h : newWatcher toAddr cc true = some b) {m : Msg} {hd : Header} {now height : Int} (hr : InRange m.cl hd)
    (ht : isTransfer m = true) (hc : isEventConfirmed m hd now height b.cfg.mainnet = true) :
    hd.height + m.cl ≤ height ∧ hd.ts + ((max m.cl 205 : Nat) : Int) * 16000 ≤ now := by
  obtain ⟨_, _, _, _, rfl⟩ := newWatcher_eq_some.1 h
  obtain ⟨⟨h1, h2⟩, _⟩ := confirmed_final hr hc
  exact ⟨h1, h2 rfl ht⟩

private def exMainnetFile : ChainCfg :=
  { groupIndex := 0, governance := some (List.replicate 32 1), tokenBridge := some (List.replicate 32 2), minimalConsistencyLevel := 105 }
example : (newWatcher (fun _ => "gov") exMainnetFile true).map (fun b => (b.cfg.mainnet, b.group, confDur b.cfg.mainnet true 10)) = some (true, 0, 3280000) := by decide +kernel
example : (newWatcher (fun _ => "gov") { exMainnetFile with tokenBridge := none } true).isNone = true := by decide +kernel

/-! ## one event, one message: the two paths publish the same thing -/

/-- What the polling path publishes for a forwarded entry is the message of that entry under the header of its block —
field by field; the consistency level is the event's, not the level the finality rule applied. -/
theorem poll_publication_exact (cfg : Cfg) (o : Oracle) (height now : Int) (s : WState) (c : Unconf × Header)
    (hc : c ∈ (stepHeight cfg o height now s).2) :
    (∃ pb ∈ s.pending, c.1 ∈ pb.evs ∧ headerOf o pb = some c.2) ∧
      pubOf c = { tx := c.1.ev.tx, ts := c.2.ts, nonce := c.1.msg.nonce, seq := c.1.msg.seq, cl := c.1.msg.cl, emitterChain := 255,
                  targetChain := c.1.msg.targetChain, emitter := c.1.msg.sender, payload := c.1.msg.payload } := by
  obtain ⟨pb, hpb, hu, hh, _⟩ := poll_forwarded cfg o height now s c hc
  exact ⟨⟨pb, hpb, hu, hh⟩, rfl⟩

/-- **Both paths hand over the same message for one event.** Whatever a re-observation request publishes is `toPub` of
an event of the transaction under the header the node reports for its block; if that event is the one the polling path
forwarded (the same log entry, converted to the same message, the same header answer) the two publications are equal in
every field — timestamp and consistency level included — so every guardian signs the same body for it, whichever way
the event reached it and whatever network flag it runs with.  (`hwf` holds for every entry that `handleUnconfirmed` filed,
by `mem_handleUnconfirmed`; an arbitrary state `s` need not have it.) -/
theorem paths_publish_same (cfg cfg' : Cfg) (o : Oracle) (height now : Int) (s : WState) (c : Unconf × Header)
    (hc : c ∈ (stepHeight cfg o height now s).2) (hwf : c.1.ev.conv = some c.1.msg)
    (node : ReobsNode) (now' : Int) (chain hashLen : Nat) (p : Pub)
    (hp : p ∈ reobserve cfg' node now' chain hashLen c.1.ev.tx) :
    (∃ pb ∈ s.pending, c.1 ∈ pb.evs ∧ headerOf o pb = some c.2) ∧
    ∃ evs e m h, node.txEvents = some evs ∧ e ∈ evs ∧ node.hdr e.block = some h ∧ e.conv = some m ∧ p = toPub c.1.ev.tx m h ∧
      (e = c.1.ev → h = c.2 → p = pubOf c) := by
  obtain ⟨bh, evs, e, m, h, _, _, _, _, hev, hin, _, _, hblock, _, hhdr, hconv, _, _, _, _, rfl⟩ :=
    reobserve_forwarded cfg' node now' chain hashLen c.1.ev.tx p hp
  refine ⟨(poll_publication_exact cfg o height now s c hc).1, evs, e, m, h, hev, hin, by rw [hblock]; exact hhdr, hconv, rfl, fun he hh => ?_⟩
  subst he hh
  rw [hwf] at hconv
  cases hconv
  rfl

example : reobserve { exCfg with mainnet := false } (exNode "gov" 0) 3280000 255 32 "t1"
    = (stepHeight exCfg exOracle 101 3280000 exState).2.map pubOf := by decide +kernel

/-- **Every message of a batch is published under its own block's header**, in whatever order the pending map hands the
batch over and whatever foreign-sender events stand in between: the publications are those of a sublist of the batch,
each entry keeping its own header. -/
theorem confirmed_own_header (cfg : Cfg) (conf : List (Unconf × Header)) :
    (handleConfirmed cfg conf).1.Sublist conf ∧
      ∀ p ∈ (handleConfirmed cfg conf).1.map pubOf, ∃ c ∈ conf, p = toPub c.1.ev.tx c.1.msg c.2 ∧ p.ts = c.2.ts ∧ p.seq = c.1.msg.seq := by
  refine ⟨handleConfirmed_sublist cfg conf, fun p hp => ?_⟩
  obtain ⟨c, hc, rfl⟩ := List.mem_map.1 hp
  exact ⟨c, (handleConfirmed_mem cfg conf c hc).1, rfl, rfl, rfl⟩

/-- … and the set of publications does not depend on that order (`h0`: an unknown event index ends the walk, and then
the order does matter). -/
theorem confirmed_order_independent (cfg : Cfg) (conf conf' : List (Unconf × Header)) (hperm : conf.Perm conf')
    (h0 : ∀ c ∈ conf, c.1.ev.idx = 0) :
    ((handleConfirmed cfg conf).1.map pubOf).Perm ((handleConfirmed cfg conf').1.map pubOf) := by
  have h0' : ∀ c ∈ conf', c.1.ev.idx = 0 := fun c hc => h0 c (hperm.mem_iff.2 hc)
  rw [handleConfirmed_of_idx0 cfg conf h0, handleConfirmed_of_idx0 cfg conf' h0']
  exact (hperm.filter _).map _

private def exMsg2 : Msg := ⟨exBridge, 2, 6, 8, 1, [1, 0]⟩
private def exEv2 : Event := ⟨1, "b2", "t2", 0, "-", some exMsg2⟩
-- sequence 9 in the block with timestamp 0 arrives ahead of sequence 8 in the block with timestamp 16000, a foreign sender in between
example : (handleConfirmed exCfg [(⟨exEv, exMsg⟩, ⟨100, 0⟩), (⟨exEv, { exMsg with sender := [8] }⟩, ⟨100, 5⟩), (⟨exEv2, exMsg2⟩, ⟨101, 16000⟩)]).1.map pubOf
    = [toPub "t1" exMsg ⟨100, 0⟩, toPub "t2" exMsg2 ⟨101, 16000⟩] := by decide +kernel

end Whv.C08
