import Whv.Lemmas.Processor
import Whv.Gen.Proc
/-!
# C13 — no untrusted input can crash the signing pipeline

Model: `Whv.Proc.step` / `Whv.Proc.run` (`Whv/Model/Processor.lean`), where every Go panic site reachable from the
processor's input channels is an explicit `Res.panic`: the signer failing, `panic("invalid sig len")`,
`StoreSignedVAA` on an unsigned VAA, the stored-VAA decode (repaired: log and drop), and every nil dereference of a
guardian set or of `ourVAA` in the cleanup routine (the first repaired by dropping injections while no set is known).
The tie (`checks/c13.py`) makes the model *predict* panics: the harness recovers panics of the real handlers and the
two streams must agree line by line.
-/
namespace Whv.C13
open Whv Whv.Proc

/-- **No panic, ever.** For every oracle that satisfies the two stated assumptions (the node's signer does not fail;
ecrecover succeeds only on 65-byte signatures), every configuration and every finite sequence of chain messages (any
payload incl. empty, any timestamp), gossiped observations (any bytes), inbound VAAs (any bytes), injections,
guardian-set updates and cleanup ticks (any times, any queue fill), the processor started from its initial state
handles the whole sequence without panicking. -/
theorem no_panic (O : Oracle) (hO : OracleOk O) (cfg : Config) (es : List Event) :
    ∃ sf outs, run O cfg {} es = .ok (sf, outs) := by
  obtain ⟨sf, outs, h, _⟩ := run_inv hO cfg es inv_init
  exact ⟨sf, outs, h⟩

/-- The same from any reachable state: after any history, any further input is handled (the node keeps processing). -/
theorem keeps_processing (O : Oracle) (hO : OracleOk O) (cfg : Config) (es es' : List Event) :
    ∃ s, (∃ outs, run O cfg {} es = .ok (s, outs)) ∧ ∃ sf outs', run O cfg s es' = .ok (sf, outs') := by
  obtain ⟨s, outs, h, hi⟩ := run_inv hO cfg es inv_init
  obtain ⟨sf, outs', h', _⟩ := run_inv hO cfg es' hi
  exact ⟨s, ⟨outs, h⟩, sf, outs', h'⟩

/-- Step form with the invariant visible: every single handler call from a state satisfying `Inv` succeeds and
re-establishes `Inv` — which is what makes the induction go through. -/
theorem step_no_panic (O : Oracle) (hO : OracleOk O) (cfg : Config) (s : PState) (h : Inv s) (e : Event) :
    ∃ s' outs, step O cfg s e = .ok s' outs ∧ Inv s' := step_inv hO cfg h e

/-- The guards are needed (the unrepaired code's two crashes, as theorems about the model with the guard removed):
an entry without any guardian set makes the settle step of the cleanup panic … -/
theorem cleanup_needs_set :
    settleAct none { firstObserved := 0 } = .panic "nil guardian set in cleanup" := rfl

/-- … and the invariant is exactly what rules that state out: it is not `Inv`. -/
theorem nil_set_entry_not_inv : ¬ Inv { gs := none, agg := [([1], { firstObserved := 0 })], db := [] } := by
  intro h
  cases h.2 nofun

/-- The model's `step` dispatches events to handlers exactly as the `select` of `Processor.Run` does in the source (arms
re-extracted from processor.go on every run): guardian-set updates assign `p.gs` (and publish it to the shared state), chain
messages go to `handleMessage`, injections to `handleInjection`, gossiped observations (and the own loopback) to
`handleObservation`, inbound signed VAAs to `handleInboundSignedVAAWithQuorum`, cleanup ticks to `handleCleanup`; there is no
other arm. The harness calls the handlers directly; this is what licenses that. -/
theorem run_dispatch_as_modelled :
    Whv.Gen.Proc.runArms =
      [("ctx.Done()", "return"), ("p.setC", "set:gst"), ("p.lockC", "handleMessage"), ("p.injectC", "handleInjection"),
       ("p.obsvC", "handleObservation"), ("p.signedInC", "handleInboundSignedVAAWithQuorum"), ("p.cleanup.C", "handleCleanup")] := by
  decide +kernel

/-- Non-vacuity: an oracle meeting the assumptions exists, and a concrete run with an empty-payload message,
its loopback, a re-observation and a cleanup tick goes through. -/
def sampleOracle : Oracle :=
  { recover := fun _ s => if s.length = 65 then some (List.replicate 20 7) else none,
    digestOf := fun _ => List.replicate 32 1,
    sign := fun _ => some (List.replicate 65 9) }

example : OracleOk sampleOracle :=
  ⟨fun _ => rfl, fun _ s a h => by
    unfold sampleOracle at h
    simp only at h
    split at h
    · assumption
    · cases h⟩

end Whv.C13
