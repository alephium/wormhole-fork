import Whv.Lemmas.AlphWatch
/-!
# C09 — every final Alephium token-bridge message is eventually observed

Model: `Whv/Model/AlphWatch.lean` (`pageLoop`, `fetchTick`, `handleUnconfirmed`, `process`, `handleConfirmed`),
following watcher.go / client.go with the repairs of `/verif/fixes/C09-*.diff`.  The node is a parameter; the
fetch theorems assume only that it serves one append-only event log consistently (`Consistent`), for *every*
page size and *every* growth of the log between the count request and the page requests.  Liveness is relative
to ticks continuing and to the node's answers (no API error, block reported canonical).
-/
namespace Whv.C09
open Whv Whv.Alph

/-- **Pages partition the log.** Against a node that serves one append-only log consistently — whatever the
page sizes, however the log grows between the count request and each page request — the loop started at
`fromIndex = f` with a polled count `c > f` ends after at most `c - f` page requests with `nextStart = n ≥ c`,
having fetched exactly the events `[f, n)`, each once and in order.  It never runs out of fuel `≥ c - f`. -/
theorem pages_partition {log : List Event} {vis size : Nat → Nat} {page : Nat → Int → Option Page}
    (hc : Consistent log vis size page) (f c fuel : Nat) (hfc : f < c) (hcv : c ≤ vis 0) (hfuel : c - f ≤ fuel) :
    ∃ n r, pageLoop page c fuel 0 f [] = .done (n : Nat) ((log.drop f).take (n - f)) r ∧
      c ≤ n ∧ n ≤ log.length ∧ 1 ≤ r ∧ r ≤ c - f := by
  -- `(↑c : Int).toNat` computes to `c`, so the hypotheses fit as they stand
  obtain ⟨n, r, h, _, h2, h3, h4, h5⟩ := pageLoop_consistent hc c hcv fuel 0 f [] (Nat.le_trans (Nat.le_of_lt hfc) hcv)
    (Nat.lt_of_lt_of_le (Nat.sub_pos_of_lt hfc) hfuel) (Nat.sub_le_iff_le_add'.1 hfuel)
  exact ⟨n, r, h, h2, h3, h4, Nat.le_sub_of_add_le (Nat.zero_add c ▸ h5 hfc)⟩

/-- **Bound on page requests per tick** (no spinning): the number of requests is between 1 and `c - fromIndex`. -/
theorem tick_terminates {log : List Event} {vis size : Nat → Nat} {page : Nat → Int → Option Page}
    (hc : Consistent log vis size page) (f c : Nat) (hfc : f < c) (hcv : c ≤ vis 0) :
    ∀ fuel, c - f ≤ fuel → ∃ n evs r, pageLoop page c fuel 0 f [] = .done n evs r ∧ r ≤ c - f := by
  intro fuel hfuel
  obtain ⟨n, r, h, _, _, _, h4⟩ := pages_partition hc f c fuel hfc hcv hfuel
  exact ⟨_, _, r, h, h4⟩

/-- a consistent node whose log grows from 1 to 2 events right after the count request; pages of up to 2 events -/
private def exLog : List Event := [⟨0, "b", "t0", 0, "-", none⟩, ⟨1, "b", "t1", 0, "-", none⟩]
private def exPage : Nat → Int → Option Page := fun _ s =>
  some ⟨(exLog.drop s.toNat).take (min (s.toNat + 2) 2 - s.toNat), (min (s.toNat + 2) 2 : Nat)⟩
example : Consistent exLog (fun _ => 2) (fun _ => 2) exPage :=
  { size_pos := fun _ => by decide, vis_mono := fun _ => Nat.le_refl _, vis_le := fun _ => by decide,
    answer := fun k s _ => by simp [exPage] }
example : pageLoop exPage 1 5 0 0 [] = .done 2 exLog 1 := by decide +kernel

/-- The loop as it was before the repair (`NextStart == count` as the only exit). -/
def pageLoopEq (page : Nat → Int → Option Page) (count : Int) : Nat → Nat → Int → List Event → LoopRes
  | 0, _, _, _ => .outOfFuel
  | fuel + 1, k, start, acc =>
    match page k start with
    | none => .apiErr
    | some p =>
      if p.next = count then .done p.next (acc ++ p.events) (k + 1)
      else pageLoopEq page count fuel (k + 1) p.next (acc ++ p.events)

/-- Why the repair was needed: on the node above (one event appended between the count request and the first
page request) the unrepaired loop is still asking for pages after any number of requests. -/
theorem unrepaired_loop_spins (fuel : Nat) : pageLoopEq exPage 1 fuel 0 0 [] = .outOfFuel := by
  -- whatever `start` is asked for, this node answers `nextStart = 2`, which is never the polled count 1
  suffices h : ∀ fuel k s acc, pageLoopEq exPage 1 fuel k s acc = .outOfFuel from h _ _ _ _
  intro fuel
  induction fuel with
  | zero => intro _ _ _; rfl
  | succ fuel ih =>
    intro k s acc
    have h2 : ((min (s.toNat + 2) 2 : Nat) : Int) ≠ 1 := by omega
    simp only [pageLoopEq, exPage, if_neg h2]
    exact ih _ _ _

/-- One tick of the fetch loop against a consistent node: the watcher stays alive, `fromIndex` moves to the
returned `nextStart`, and what is delivered to the event loop is exactly the admissible part of `[f, n)`.  (`fromIndex` is
an `Int` as in Go while `Consistent` speaks of `Nat` positions: hence `f` and `hf`, here and below.) -/
theorem fetch_tick {log : List Event} {vis size : Nat → Nat} {page : Nat → Int → Option Page}
    (hc : Consistent log vis size page) (ans : Bytes → TiAns) (s : WState) (f c fuel : Nat)
    (hf : s.fromIndex = f) (hfc : f < c) (hcv : c ≤ vis 0) (hfuel : c - f ≤ fuel) :
    ∃ n : Nat, c ≤ n ∧ n ≤ log.length ∧
      (fetchTick ans (some c) page fuel s).2 = some (handleUnconfirmed ans ((log.drop f).take (n - f))) ∧
      (fetchTick ans (some c) page fuel s).1.fromIndex = n ∧
      (fetchTick ans (some c) page fuel s).1.alive = s.alive := by
  obtain ⟨n, r, h, h1, h2, _, _⟩ := pages_partition hc f c fuel hfc hcv hfuel
  have hne : (c : Int) ≠ s.fromIndex := hf ▸ Int.ne_of_gt (Int.ofNat_lt.2 hfc)
  rw [← hf] at h
  rw [fetchTick_of_done hne h]
  exact ⟨n, h1, h2, rfl, rfl, rfl⟩

/-- An event is let through by the fetch loop iff it is well-formed: index 0, converts, and (if attestation-shaped)
its metadata matches what the token contract reports.  In particular a well-formed event is never dropped. -/
theorem acceptEv_iff (ans : Bytes → TiAns) (e : Event) (u : Unconf) :
    acceptEv ans e = some u ↔
      (u.ev = e ∧ e.idx = 0 ∧ e.conv = some u.msg ∧ (isAttest u.msg = true → validateAttest ans u.msg = true)) :=
  acceptEv_eq_some

/-- **Isolation at the fetch loop.** An event that is not let through — wrong event index, fields that do not
convert, attestation-shaped with failing / mis-shaped / mismatching metadata — changes nothing about what is
delivered for the events before and after it on the page. -/
theorem malformed_isolated (ans : Bytes → TiAns) (before after : List Event) (bad : Event)
    (hbad : acceptEv ans bad = none) :
    handleUnconfirmed ans (before ++ bad :: after) = handleUnconfirmed ans (before ++ after) := by
  simp [handleUnconfirmed, List.filterMap_append, hbad]

/-- … and such an event is every event with a wrong index, without a conversion, or failing attestation validation. -/
theorem acceptEv_none_of_malformed (ans : Bytes → TiAns) (e : Event)
    (h : e.idx ≠ 0 ∨ e.conv = none ∨ (∃ m, e.conv = some m ∧ isAttest m = true ∧ validateAttest ans m = false)) :
    acceptEv ans e = none := by
  refine Option.eq_none_iff_forall_ne_some.2 fun u hu => ?_
  obtain ⟨rfl, hi, hc, hval⟩ := acceptEv_eq_some.1 hu
  rcases h with h | h | ⟨m, hm, ha, hv⟩
  · exact h hi
  · cases h.symm.trans hc
  · cases hm.symm.trans hc
    cases (hval ha).symm.trans hv

-- ids 0–4: well-formed / no conversion / event index 1 / attestation whose lookup fails / foreign sender (kept here: senders are
-- judged when the event is confirmed)
example : handleUnconfirmed (fun _ => .apiErr) [⟨0, "b", "t", 0, "-", some ⟨[7], 2, 0, 0, 1, [1]⟩⟩, ⟨1, "b", "t", 0, "-", none⟩,
    ⟨2, "b", "t", 1, "-", some ⟨[7], 2, 0, 0, 1, [1]⟩⟩, ⟨3, "b", "t", 0, "-", some ⟨[7], 2, 0, 0, 1, [2]⟩⟩,
    ⟨4, "b", "t", 0, "-", some ⟨[8], 2, 0, 0, 1, [3]⟩⟩]
    = [⟨⟨0, "b", "t", 0, "-", some ⟨[7], 2, 0, 0, 1, [1]⟩⟩, ⟨[7], 2, 0, 0, 1, [1]⟩⟩,
       ⟨⟨4, "b", "t", 0, "-", some ⟨[8], 2, 0, 0, 1, [3]⟩⟩, ⟨[8], 2, 0, 0, 1, [3]⟩⟩] := by decide +kernel

/-- every pending event has event index 0 (true of everything the fetch loop delivers) -/
def AllIdx0 (pending : List PBlock) : Prop := ∀ pb ∈ pending, ∀ u ∈ pb.evs, u.ev.idx = 0

/-- **Exactly which messages one height tick forwards.** When the node answers (no API error) the forwarded
entries are precisely the pending events that are confirmed, in a block reported canonical, with the token bridge
as sender — each judged on its own block and fields only, whatever else is pending: a foreign or odd neighbour
neither suppresses nor adds a forward, and the watcher stays alive. -/
theorem forwarded_iff {cfg : Cfg} {o : Oracle} {height now : Int} {s : WState} (hidx : AllIdx0 s.pending)
    (hok : ∀ pb ∈ s.pending, (o.main pb.block).isSome ∧ (headerOf o pb).isSome) (u : Unconf) (h : Header) :
    ((u, h) ∈ (stepHeight cfg o height now s).2 ↔
      ∃ pb ∈ s.pending, u ∈ pb.evs ∧ headerOf o pb = some h ∧ o.main pb.block = some true ∧
        isEventConfirmed u.msg h now height cfg.mainnet = true ∧ u.msg.sender = cfg.bridge) ∧
    (stepHeight cfg o height now s).1.alive = s.alive := by
  obtain ⟨pend, conf, hp⟩ := exists_process_eq_some cfg height now hok
  obtain ⟨_, h2, h3, _⟩ := stepHeight_some hp
  have hconf0 : ∀ c ∈ conf, c.1.ev.idx = 0 := by
    intro c hc
    obtain ⟨pb, hpb, hu, _⟩ := (mem_process_conf_iff hp c.1 c.2).1 hc
    exact hidx pb hpb c.1 hu
  rw [h2, h3, handleConfirmed_of_idx0 cfg conf hconf0]
  refine ⟨?_, by simp⟩
  -- both sides are the same conjunction up to order and bracketing
  simp only [List.mem_filter, decide_eq_true_eq, mem_process_conf_iff hp u h, confirmedIn, ← exists_and_right, and_assoc]

/-! ## restarts of `Run` on the same `Watcher` value -/

/-- **A restarted watcher fetches afresh.** Whatever the previous incarnations did (`s0` is arbitrary), the incarnation
started by `restartW` with polled count `c0` fetches, at its first tick with a count `c > c0`, exactly the log positions
`[c0, n)` of a consistent node — nothing below `c0` a second time — and stays alive; while the count stays `c0` it asks
for no page and delivers nothing. -/
theorem restart_fetches_fresh {log : List Event} {vis size : Nat → Nat} {page : Nat → Int → Option Page}
    (hc : Consistent log vis size page) (ans : Bytes → TiAns) (s0 : WState) (c0 c fuel : Nat)
    (hfc : c0 < c) (hcv : c ≤ vis 0) (hfuel : c - c0 ≤ fuel) :
    (∃ n : Nat, c ≤ n ∧ n ≤ log.length ∧
      (fetchTick ans (some c) page fuel (restartW s0 (some c0))).2 = some (handleUnconfirmed ans ((log.drop c0).take (n - c0))) ∧
      (∀ u ∈ handleUnconfirmed ans ((log.drop c0).take (n - c0)), u.ev ∈ log.drop c0) ∧
      (fetchTick ans (some c) page fuel (restartW s0 (some c0))).1.fromIndex = n ∧
      (fetchTick ans (some c) page fuel (restartW s0 (some c0))).1.alive = true) ∧
    (fetchTick ans (some c0) page fuel (restartW s0 (some c0))).2 = none := by
  constructor
  · obtain ⟨n, h1, h2, h3, h4, h5⟩ := fetch_tick hc ans (restartW s0 (some c0)) c0 c fuel rfl hfc hcv hfuel
    exact ⟨n, h1, h2, h3, fun u hu => List.mem_of_mem_take (mem_handleUnconfirmed.1 hu).1, h4, by rw [h5]; rfl⟩
  · simp [fetchTick, restartW]

private def exLog3 : List Event := exLog ++ [⟨2, "b", "t2", 0, "-", some ⟨[7], 2, 0, 0, 1, [1]⟩⟩]
private def exPage3 : Nat → Int → Option Page := fun _ s =>
  some ⟨(exLog3.drop s.toNat).take (min (s.toNat + 2) 3 - s.toNat), (min (s.toNat + 2) 3 : Nat)⟩
example : Consistent exLog3 (fun _ => 3) (fun _ => 2) exPage3 :=
  { size_pos := fun _ => by decide, vis_mono := fun _ => Nat.le_refl _, vis_le := fun _ => by decide,
    answer := fun k s _ => by simp [exPage3] }
-- an incarnation that had reached index 1 is restarted when the count is 2: only position 2 is fetched afterwards
example : (fetchTick (fun _ => .apiErr) (some 3) exPage3 5 (restartW { fromIndex := 1 } (some 2))).2
    = some [⟨⟨2, "b", "t2", 0, "-", some ⟨[7], 2, 0, 0, 1, [1]⟩⟩, ⟨[7], 2, 0, 0, 1, [1]⟩⟩] := by decide +kernel

/-! ## metadata lookups leave no trace

The token-metadata answers are a parameter of every single tick (`ans`) and of every single re-observation request
(`node.ti`): nothing about an earlier lookup — that it happened, for which id, that it failed — is part of the watcher's state. -/

/-- Where a tick leaves the fetch index, and whether the watcher is still alive, does not depend on what the token
contracts answered during the tick. -/
theorem lookups_leave_no_trace (ans₁ ans₂ : Bytes → TiAns) (cnt : Option Int) (page : Nat → Int → Option Page) (fuel : Nat) (s : WState) :
    (fetchTick ans₁ cnt page fuel s).1.fromIndex = (fetchTick ans₂ cnt page fuel s).1.fromIndex ∧
    (fetchTick ans₁ cnt page fuel s).1.alive = (fetchTick ans₂ cnt page fuel s).1.alive := by
  cases cnt with
  | none => exact ⟨rfl, rfl⟩
  | some c =>
    by_cases hcf : c = s.fromIndex
    · simp only [fetchTick, hcf, if_true, and_self]
    · cases hl : pageLoop page c fuel 0 s.fromIndex [] <;> simp only [fetchTick, hcf, if_false, hl, stepBatch, and_self]

/-- What a tick delivers depends on the state it starts from through the fetch index only. -/
theorem delivery_depends_on_index_only (ans : Bytes → TiAns) (cnt : Option Int) (page : Nat → Int → Option Page) (fuel : Nat)
    (s s' : WState) (h : s.fromIndex = s'.fromIndex) :
    (fetchTick ans cnt page fuel s).2 = (fetchTick ans cnt page fuel s').2 := by
  unfold fetchTick
  cases cnt with
  | none => rfl
  | some c =>
    simp only [h]
    split
    · rfl
    · split <;> rfl

/-- **A genuine attestation after failed lookups.** Against a consistent node, a tick started at fetch index `f` — in whatever
state `s` earlier ticks, with whatever metadata answers, have left the watcher — delivers every event below the polled
count that has index 0, converts, and (if attestation-shaped) equals what the token contract reports *in this tick*. -/
theorem genuine_attest_delivered {log : List Event} {vis size : Nat → Nat} {page : Nat → Int → Option Page}
    (hc : Consistent log vis size page) (ans : Bytes → TiAns) (s : WState) (f c fuel : Nat)
    (hf : s.fromIndex = f) (hfc : f < c) (hcv : c ≤ vis 0) (hfuel : c - f ≤ fuel)
    (e : Event) (he : e ∈ (log.drop f).take (c - f)) (m : Msg) (hidx : e.idx = 0) (hconv : e.conv = some m)
    (hval : isAttest m = true → validateAttest ans m = true) :
    ∃ batch, (fetchTick ans (some c) page fuel s).2 = some batch ∧ (⟨e, m⟩ : Unconf) ∈ batch := by
  obtain ⟨n, h1, _, h3, _, _⟩ := fetch_tick hc ans s f c fuel hf hfc hcv hfuel
  exact ⟨_, h3, mem_handleUnconfirmed.2
    ⟨List.take_subset_take_left _ (Nat.sub_le_sub_right h1 f) he, hidx, hconv, hval⟩⟩

private def exTok : Bytes := List.replicate 31 0 ++ [9]
private def exAttest : Bytes := [2] ++ exTok ++ [0, 255, 8] ++ (List.replicate 31 0 ++ [65]) ++ (List.replicate 31 0 ++ [66])
private def exAttMsg (sender : Bytes) : Msg := ⟨sender, 0, 0, 1, 0, exAttest⟩
private def exTiOk : Bytes → TiAns := fun _ => .results [.ok [.bytes (some [65])], .ok [.bytes (some [66])], .ok [.u256 (some 8)]]
private def exTiFail : Bytes → TiAns := fun _ => .results [.ok [.bytes (some [65])], .failed, .ok [.u256 (some 8)]]
private def exLogA : List Event := [⟨0, "b", "t0", 0, "-", some (exAttMsg [8])⟩, ⟨1, "b", "t1", 0, "-", some (exAttMsg [7])⟩]
private def exPageA : Nat → Int → Option Page := fun _ s => some ⟨(exLogA.drop s.toNat).take 1, (min (s.toNat + 1) 2 : Nat)⟩
-- tick 1: a foreign sender's attestation-shaped event names the token while its `name` call fails: nothing is delivered;
-- tick 2: the contract answers, the token bridge's attestation of the same id is delivered
example : (fetchTick exTiFail (some 1) exPageA 3 {}).2 = some [] := by decide +kernel
example : (fetchTick exTiOk (some 2) exPageA 3 (fetchTick exTiFail (some 1) exPageA 3 {}).1).2
    = some [⟨⟨1, "b", "t1", 0, "-", some (exAttMsg [7])⟩, exAttMsg [7]⟩] := by decide +kernel

/-- **After the token contract has begun to answer differently.** Two ticks of one watcher: an earlier one under the answers
`ans₁` — whatever was looked up, validated and delivered then — and a tick under `ans₂` against a consistent node.  The later tick
delivers every event below the polled count that has index 0, converts and (if attestation-shaped) equals what the token
contract reports *now*, and it delivers no attestation that differs from what the contract reports now. -/
theorem current_attest_delivered_after_change {log : List Event} {vis size : Nat → Nat} {page : Nat → Int → Option Page}
    (hc : Consistent log vis size page) (ans₁ ans₂ : Bytes → TiAns) (cnt₁ : Option Int) (page₁ : Nat → Int → Option Page)
    (fuel₁ : Nat) (s : WState) (f c fuel : Nat)
    (hf : (fetchTick ans₁ cnt₁ page₁ fuel₁ s).1.fromIndex = f) (hfc : f < c) (hcv : c ≤ vis 0) (hfuel : c - f ≤ fuel) :
    ∃ batch, (fetchTick ans₂ (some c) page fuel (fetchTick ans₁ cnt₁ page₁ fuel₁ s).1).2 = some batch ∧
      (∀ e ∈ (log.drop f).take (c - f), ∀ m, e.idx = 0 → e.conv = some m →
        (isAttest m = true → validateAttest ans₂ m = true) → (⟨e, m⟩ : Unconf) ∈ batch) ∧
      (∀ u ∈ batch, isAttest u.msg = true → validateAttest ans₂ u.msg = true) := by
  obtain ⟨n, h1, _, h3, _, _⟩ := fetch_tick hc ans₂ (fetchTick ans₁ cnt₁ page₁ fuel₁ s).1 f c fuel hf hfc hcv hfuel
  exact ⟨_, h3, fun e he m hidx hconv hval => mem_handleUnconfirmed.2
    ⟨List.take_subset_take_left _ (Nat.sub_le_sub_right h1 f) he, hidx, hconv, hval⟩,
    fun u hu ha => (mem_handleUnconfirmed.1 hu).2.2.2 ha⟩

-- the token contract first reports (A, B, 8), then its `name` answers C: an attestation of the earlier values is not
-- delivered by the later tick, one of the current values is
private def exTiNew : Bytes → TiAns := fun _ => .results [.ok [.bytes (some [65])], .ok [.bytes (some [67])], .ok [.u256 (some 8)]]
private def exAttestNew : Bytes := [2] ++ exTok ++ [0, 255, 8] ++ (List.replicate 31 0 ++ [65]) ++ (List.replicate 31 0 ++ [67])
private def exLogC : List Event := [⟨0, "b", "t0", 0, "-", some (exAttMsg [7])⟩, ⟨1, "b", "t1", 0, "-", some (exAttMsg [7])⟩,
  ⟨2, "b", "t2", 0, "-", some ⟨[7], 0, 0, 2, 0, exAttestNew⟩⟩]
private def exPageC : Nat → Int → Option Page := fun _ s => some ⟨(exLogC.drop s.toNat).take 2, (min (s.toNat + 2) 3 : Nat)⟩
example : (fetchTick exTiOk (some 1) (fun _ _ => some ⟨exLogC.take 1, 1⟩) 3 {}).2 = some [⟨⟨0, "b", "t0", 0, "-", some (exAttMsg [7])⟩, exAttMsg [7]⟩] := by decide +kernel
example : (fetchTick exTiNew (some 3) exPageC 3 (fetchTick exTiOk (some 1) (fun _ _ => some ⟨exLogC.take 1, 1⟩) 3 {}).1).2
    = some [⟨⟨2, "b", "t2", 0, "-", some ⟨[7], 0, 0, 2, 0, exAttestNew⟩⟩, ⟨[7], 0, 0, 2, 0, exAttestNew⟩⟩] := by decide +kernel

example : Consistent exLogC (fun _ => 3) (fun _ => 2) exPageC ∧ (fetchTick exTiOk (some 1) (fun _ _ => some ⟨exLogC.take 1, 1⟩) 3 {}).1.fromIndex = 1 :=
  ⟨{ size_pos := fun _ => by decide, vis_mono := fun _ => Nat.le_refl _, vis_le := fun _ => by decide, answer := fun k s hs => by
      have : s = 0 ∨ s = 1 ∨ s = 2 ∨ s = 3 := by omega
      rcases this with rfl | rfl | rfl | rfl <;> rfl }, by decide +kernel⟩

/-- **Re-observation hands over what is final** — and it is a function of the answers of *this* request only (`node`): a
re-observation request for a transaction confirmed in a block the node calls canonical, all of whose governance-contract
events in that block have a header and convert, forwards every such event that comes from the token bridge, is final at the
height answered, and — for an attestation — equals what the token contract reports now; whatever earlier requests or ticks
looked up about the same token id, and with whatever result. -/
theorem reobserve_forwards (cfg : Cfg) (node : ReobsNode) (now : Int) (tx : Hash) {bh : Hash} {evs : List Event}
    {cands : List (Unconf × Header)} {height : Int}
    (hst : node.status = some (.confirmed bh)) (hev : node.txEvents = some evs) (hg : govEvents cfg node bh evs = some cands)
    (hmain : node.main bh = some true) (hheight : node.height = some height)
    {e : Event} (he : e ∈ evs) (hidx : e.idx = 0) (hgov : e.contract = cfg.gov) (hb : e.block = bh)
    {h : Header} (hh : node.hdr bh = some h) {m : Msg} (hm : e.conv = some m) (hs : m.sender = cfg.bridge)
    (hc : isEventConfirmed m h now height cfg.mainnet = true)
    (hatt : isAttest m = true → validateAttest node.ti m = true) :
    toPub tx m h ∈ reobserve cfg node now ChainIdAlephium 32 tx :=
  mem_reobserve.2 ⟨rfl, rfl, bh, evs, cands, height, hst, hev, hg, hmain, hheight, (⟨e, m⟩, h),
    (mem_govEvents hg _).2 ⟨he, hidx, hgov, hb, hh, hm, hatt⟩, hc, hs, rfl⟩

private def exReNode (ti : Bytes → TiAns) : ReobsNode :=
  { status := some (.confirmed "b"), txEvents := some [⟨0, "b", "t1", 0, "gov", some (exAttMsg [7])⟩],
    hdr := fun _ => some ⟨100, 0⟩, main := fun _ => some true, height := some 100, ti := ti }
example : reobserve ⟨false, [7], "gov"⟩ (exReNode exTiFail) 0 255 32 "t1" = [] := by decide +kernel
example : reobserve ⟨false, [7], "gov"⟩ (exReNode exTiOk) 0 255 32 "t1" = [toPub "t1" (exAttMsg [7]) ⟨100, 0⟩] := by decide +kernel

/-! `Held` and `AllIdx0` are hypotheses of this section: no theorem here derives them from a delivered batch
(`addEvent_self` below is the step such a derivation would start from; it has no user). -/

/-- `u` is filed under its block, whose header is either not fetched yet or is `h` -/
def Held (s : WState) (u : Unconf) (h : Header) : Prop :=
  ∃ pb ∈ s.pending, pb.block = u.ev.block ∧ u ∈ pb.evs ∧ (pb.hdr = none ∨ pb.hdr = some h)

private theorem addEvent_self (pend : List PBlock) (u : Unconf) (h : Header)
    (hc : ∀ pb ∈ pend, pb.block = u.ev.block → (pb.hdr = none ∨ pb.hdr = some h)) :
    ∃ pb ∈ addEvent pend u, pb.block = u.ev.block ∧ u ∈ pb.evs ∧ (pb.hdr = none ∨ pb.hdr = some h) := by
  fun_induction addEvent pend u with
  | case1 => exact ⟨_, List.mem_cons_self, rfl, List.mem_cons_self, Or.inl rfl⟩  -- a new block, no header yet
  | case2 pb0 rest u hb =>  -- `u` joins the first block
    exact ⟨_, List.mem_cons_self, hb, List.mem_append_right _ List.mem_cons_self, hc pb0 List.mem_cons_self hb⟩
  | case3 pb0 rest u _ ih =>  -- `u` is filed further down
    obtain ⟨pb', hpb', rest'⟩ := ih fun pb hpb => hc pb (List.mem_cons_of_mem _ hpb)
    exact ⟨pb', List.mem_cons_of_mem _ hpb', rest'⟩

theorem held_headerOf {s : WState} {u : Unconf} {h : Header} {o : Oracle} (hh : Held s u h)
    (hhdr : o.hdr u.ev.block = some h) :
    ∃ pb ∈ s.pending, pb.block = u.ev.block ∧ u ∈ pb.evs ∧ headerOf o pb = some h := by
  obtain ⟨pb, hpb, hb, hu, hd⟩ := hh
  refine ⟨pb, hpb, hb, hu, ?_⟩
  unfold headerOf
  rcases hd with hd | hd
  · -- no header cached: the node is asked
    rw [hd, hb]
    exact hhdr
  · rw [hd]

/-- a batch never removes a held event -/
theorem held_batch {s : WState} {u : Unconf} {h : Header} (us : List Unconf) (hh : Held s u h) :
    Held (stepBatch s us) u h := by
  unfold Held stepBatch addBatch at *
  induction us generalizing s with
  | nil => simpa using hh
  | cons v rest ih =>
    exact ih (s := { s with pending := addEvent s.pending v }) (addEvent_held s.pending v u h hh)

/-- **Waiting.** A height tick at which the node answers, and at which the held event is not yet confirmed,
keeps it held (now with its header cached) — whatever the node says about canonicity at that moment. -/
theorem held_wait {cfg : Cfg} {o : Oracle} {height now : Int} {s : WState} {u : Unconf} {h : Header}
    (hh : Held s u h) (hhdr : o.hdr u.ev.block = some h)
    (hok : ∀ pb ∈ s.pending, (o.main pb.block).isSome ∧ (headerOf o pb).isSome)
    (hnc : isEventConfirmed u.msg h now height cfg.mainnet = false) :
    Held (stepHeight cfg o height now s).1 u h := by
  obtain ⟨pend, conf, hp⟩ := exists_process_eq_some cfg height now hok
  obtain ⟨h1, _⟩ := stepHeight_some hp
  obtain ⟨pb, hpb, hb, hu, hho⟩ := held_headerOf hh hhdr
  have hmem : u ∈ pb.evs.filter fun v => !confirmedIn cfg h height now v :=
    List.mem_filter.2 ⟨hu, by simp [confirmedIn, hnc]⟩
  refine ⟨{ pb with hdr := some h, evs := pb.evs.filter fun v => !confirmedIn cfg h height now v }, ?_, hb, hmem, Or.inr rfl⟩
  rw [h1]
  exact (mem_process_pend_iff hp _).2 ⟨pb, hpb, h, hho, List.ne_nil_of_mem hmem, rfl⟩

/-- **Forwarding.** At the first height tick at which the node answers, reports the block canonical, and
`isEventConfirmed` holds for this tick's height and clock, a held token-bridge event is handed to the signer. -/
theorem held_forwarded {cfg : Cfg} {o : Oracle} {height now : Int} {s : WState} {u : Unconf} {h : Header}
    (hh : Held s u h) (hhdr : o.hdr u.ev.block = some h) (hidx : AllIdx0 s.pending)
    (hok : ∀ pb ∈ s.pending, (o.main pb.block).isSome ∧ (headerOf o pb).isSome)
    (hmain : o.main u.ev.block = some true) (hs : u.msg.sender = cfg.bridge)
    (hc : isEventConfirmed u.msg h now height cfg.mainnet = true) :
    (u, h) ∈ (stepHeight cfg o height now s).2 := by
  obtain ⟨pb, hpb, hb, hu, hho⟩ := held_headerOf hh hhdr
  exact ((forwarded_iff hidx hok u h).1).2 ⟨pb, hpb, hu, hho, by rw [hb]; exact hmain, hc, hs⟩

/-- a height tick keeps `AllIdx0`: what stays pending was pending -/
theorem allIdx0_stepHeight {cfg : Cfg} {o : Oracle} {height now : Int} {s : WState} (hidx : AllIdx0 s.pending) :
    AllIdx0 (stepHeight cfg o height now s).1.pending := by
  cases hp : process cfg o height now s.pending with
  | none => rw [stepHeight_none hp]; exact hidx
  | some r =>
    rw [(stepHeight_some hp).1]
    intro pb' hpb' u hu
    obtain ⟨pb, hpb, h, _, _, rfl⟩ := (mem_process_pend_iff hp pb').1 hpb'
    exact hidx pb hpb u (List.mem_filter.1 hu).1

/-- the height ticks the event has to sit through: the node answers, the event is not confirmed yet -/
def Waits (cfg : Cfg) (u : Unconf) (h : Header) (s : WState) : List (Oracle × Int × Int) → Prop
  | [] => True
  | (o, height, now) :: rest =>
    o.hdr u.ev.block = some h ∧ (∀ pb ∈ s.pending, (o.main pb.block).isSome ∧ (headerOf o pb).isSome) ∧
    isEventConfirmed u.msg h now height cfg.mainnet = false ∧
    Waits cfg u h (stepHeight cfg o height now s).1 rest

def afterTicks (cfg : Cfg) (s : WState) : List (Oracle × Int × Int) → WState
  | [] => s
  | (o, height, now) :: rest => afterTicks cfg (stepHeight cfg o height now s).1 rest

/-- **Eventually, exactly once** (relative to ticks continuing and the node's answers): a held, well-formed
token-bridge event survives any number of height ticks at which it is not yet confirmed (reorg flags may flip
in between) and is handed to the signer at the first tick at which the node reports its block canonical and the
finality conditions hold.  `C08.at_most_once` shows it is never handed over a second time. -/
theorem eventually_forwarded (cfg : Cfg) (u : Unconf) (h : Header) (ticks : List (Oracle × Int × Int)) (s : WState)
    (hh : Held s u h) (hidx : AllIdx0 s.pending) (hw : Waits cfg u h s ticks)
    (o : Oracle) (height now : Int) (hhdr : o.hdr u.ev.block = some h)
    (hok : ∀ pb ∈ (afterTicks cfg s ticks).pending, (o.main pb.block).isSome ∧ (headerOf o pb).isSome)
    (hmain : o.main u.ev.block = some true) (hs : u.msg.sender = cfg.bridge)
    (hc : isEventConfirmed u.msg h now height cfg.mainnet = true) :
    (u, h) ∈ (stepHeight cfg o height now (afterTicks cfg s ticks)).2 := by
  induction ticks generalizing s with
  | nil => exact held_forwarded hh hhdr hidx hok hmain hs hc
  | cons t rest ih =>
    obtain ⟨o', height', now'⟩ := t
    obtain ⟨w1, w2, w3, w4⟩ := hw
    exact ih (stepHeight cfg o' height' now' s).1 (held_wait hh w1 w2 w3) (allIdx0_stepHeight hidx) w4 hok

private def exBridge : Bytes := [7]
private def exCfg : Cfg := { mainnet := false, bridge := exBridge, gov := "gov" }
private def exMsg : Msg := ⟨exBridge, 2, 5, 9, 2, [1, 0]⟩
private def exU : Unconf := ⟨⟨0, "b1", "t1", 0, "-", some exMsg⟩, exMsg⟩
private def exS : WState := stepBatch {} [exU]
private def exO (canon : Bool) : Oracle := { main := fun _ => some canon, hdr := fun _ => some ⟨100, 0⟩ }
example : Held exS exU ⟨100, 0⟩ := ⟨⟨"b1", none, [exU]⟩, by decide +kernel, rfl, by decide +kernel, Or.inl rfl⟩
example : Waits exCfg exU ⟨100, 0⟩ exS [(exO false, 101, 40000), (exO true, 102, 31999)] := by
  refine ⟨rfl, by decide +kernel, by decide +kernel, rfl, by decide +kernel, by decide +kernel, trivial⟩
example : (stepHeight exCfg (exO true) 102 32000 (afterTicks exCfg exS [(exO false, 101, 40000), (exO true, 102, 31999)])).2
    = [(exU, ⟨100, 0⟩)] := by decide +kernel

/-! ## a failing request inside a round

The pinned loop ends the watcher on a failing page request (`fetchTick`: `alive := false`; the supervisor starts a new one,
`restart_fetches_fresh`).  A watcher may also carry on — then it stays bound by the statement.  `fetchTickKeep` (cursor
unchanged, the round is repeated) loses nothing; `fetchTickDrop` (cursor where the failed round stopped, its pages thrown
away) loses the pages fetched before the failing request. -/

theorem keep_failed_round_is_noop (ans : Bytes → TiAns) (cnt : Option Int) (page : Nat → Int → Option Page) (fuel : Nat) (s : WState)
    (h : (fetchTickKeep ans cnt page fuel s).2 = none) : (fetchTickKeep ans cnt page fuel s).1 = s := by
  revert h
  fun_cases fetchTickKeep ans cnt page fuel s
  -- the branch in which the page loop ended hands a batch over
  case case3 => exact nofun
  all_goals exact fun _ => rfl

theorem keep_agrees_when_delivering (ans : Bytes → TiAns) (cnt : Option Int) (page : Nat → Int → Option Page) (fuel : Nat) (s : WState)
    {us : List Unconf} (h : (fetchTick ans cnt page fuel s).2 = some us) :
    fetchTickKeep ans cnt page fuel s = fetchTick ans cnt page fuel s := by
  revert h
  fun_cases fetchTick ans cnt page fuel s
  -- only the branch in which the page loop ended hands a batch over
  case case3 c hne next evs r hl _ =>
    intro _
    simp only [fetchTickKeep, hne, hl, if_false]
    rfl
  all_goals exact nofun

/-- **Carrying on with the cursor unchanged loses nothing**: after any number of rounds that handed nothing over (a failing
page request at any position, a failing count request), the first healthy round against a consistent node delivers the
admissible part of `[f, n)` — every position from where the watcher stood before the failures, each once. -/
theorem keep_survives_failures {log : List Event} {vis size : Nat → Nat} {page : Nat → Int → Option Page}
    (hc : Consistent log vis size page) (ans : Bytes → TiAns) (s : WState) (f c fuel : Nat)
    (failed : List (Option Int × (Nat → Int → Option Page) × Nat))
    (hfail : ∀ r ∈ failed, (fetchTickKeep ans r.1 r.2.1 r.2.2 s).2 = none)
    (hf : s.fromIndex = f) (hfc : f < c) (hcv : c ≤ vis 0) (hfuel : c - f ≤ fuel) :
    let s' := failed.foldl (fun st r => (fetchTickKeep ans r.1 r.2.1 r.2.2 st).1) s
    ∃ n : Nat, c ≤ n ∧ n ≤ log.length ∧
      (fetchTickKeep ans (some c) page fuel s').2 = some (handleUnconfirmed ans ((log.drop f).take (n - f))) := by
  intro s'
  -- every such round returns `s` itself, which is why `hfail` may speak of `s` and not of the running state
  have hs : s' = s :=
    List.foldl_eq_self fun r hr => keep_failed_round_is_noop ans r.1 r.2.1 r.2.2 s (hfail r hr)
  obtain ⟨n, h1, h2, h3, _, _⟩ := fetch_tick hc ans s f c fuel hf hfc hcv hfuel
  refine ⟨n, h1, h2, ?_⟩
  rw [hs, keep_agrees_when_delivering ans (some c) page fuel s h3]
  exact h3

/-- a consistent three-event log served one event per page; the second page request of the first round fails once -/
private def exLogF : List Event :=
  [⟨0, "b", "t0", 0, "-", some ⟨[7], 2, 0, 10, 1, [1]⟩⟩, ⟨1, "b", "t1", 0, "-", some ⟨[7], 2, 0, 11, 1, [1]⟩⟩, ⟨2, "b", "t2", 0, "-", some ⟨[7], 2, 0, 12, 1, [1]⟩⟩]
private def exPageF (failAt : Option Nat) : Nat → Int → Option Page := fun k s =>
  if failAt = some k then none else some ⟨(exLogF.drop s.toNat).take 1, (min (s.toNat + 1) 3 : Nat)⟩
private def seqsOf (r : WState × Option (List Unconf)) : Option (List Nat) := r.2.map fun us => us.map (·.msg.seq)

/-- **Dropping the fetched pages of a failed round loses messages** — the witness: three token-bridge messages, pages of one
event, the second page request fails once.  The watcher that moves on from where the failed round stopped hands over
nothing in that round and sequences 11 and 12 in the next: sequence 10, fetched in the first page, is never handed over
and never asked for again (the cursor is past it).  The watcher that repeats the round hands over all three. -/
theorem dropped_pages_are_lost :
    seqsOf (fetchTickDrop (fun _ => .apiErr) (some 3) (exPageF (some 1)) 5 {}) = none ∧
    (fetchTickDrop (fun _ => .apiErr) (some 3) (exPageF (some 1)) 5 {}).1.fromIndex = 1 ∧
    seqsOf (fetchTickDrop (fun _ => .apiErr) (some 3) (exPageF none) 5 (fetchTickDrop (fun _ => .apiErr) (some 3) (exPageF (some 1)) 5 {}).1) = some [11, 12] ∧
    seqsOf (fetchTickKeep (fun _ => .apiErr) (some 3) (exPageF none) 5 (fetchTickKeep (fun _ => .apiErr) (some 3) (exPageF (some 1)) 5 {}).1) = some [10, 11, 12] := by
  decide +kernel

example : (fetchTick (fun _ => .apiErr) (some 3) (exPageF (some 1)) 5 {}).1.alive = false := by decide +kernel
-- the hypotheses of `keep_survives_failures`: a failing second page request, then a failing count request, from index 0
example : ∀ r ∈ [(some (3 : Int), exPageF (some 1), 5), (none, exPageF none, 5)], (fetchTickKeep (fun _ => .apiErr) r.1 r.2.1 r.2.2 {}).2 = none := by decide +kernel
example : (fetchTickKeep (fun _ => .apiErr) (some 3) (exPageF (some 0)) 5 {}).2 = none
    ∧ (fetchTickKeep (fun _ => .apiErr) (some 3) (exPageF (some 0)) 5 {}).1.fromIndex = 0 := by decide +kernel
example : seqsOf (fetchTick (fun _ => .apiErr) (some 3) (exPageF none) 5 {}) = some [10, 11, 12] := by decide +kernel

/-! ## a count that moves backwards ("no matter … how the event count moves between requests")

A count poll may answer lower than an earlier one.  The pinned loop starts its page requests at its own cursor whatever the
count says, and a node never answers a page request with a `nextStart` below the `start` asked for — so the cursor never moves
back, a lagging backend that has nothing at the cursor changes nothing, and a healthy one serves exactly the positions from the
cursor on.  Letting the cursor follow the lower count (`fetchTickFollow`) hands positions over twice. -/

/-- the node never sends a client back: every page answer's `nextStart` is at least the `start` it was asked with -/
def NeverBack (page : Nat → Int → Option Page) : Prop := ∀ k s p, page k s = some p → s ≤ p.next

/-- **The cursor never moves back**, whatever the count request answers — lower than the cursor, zero, an error — and whatever
the pages hold, as long as the node never answers a page request with a `nextStart` below the `start` asked for. -/
theorem cursor_never_moves_back {page : Nat → Int → Option Page} (hp : NeverBack page) (ans : Bytes → TiAns) (cnt : Option Int)
    (fuel : Nat) (s : WState) : s.fromIndex ≤ (fetchTick ans cnt page fuel s).1.fromIndex := by
  fun_cases fetchTick ans cnt page fuel s
  -- the cursor changes only in the branch in which the page loop ended
  case case3 c _ next evs r hl _ => exact pageLoop_start_le_next hp hl
  all_goals exact Int.le_refl _

/-- … over any history of ticks: count answers and page functions of every kind, in any order. -/
theorem cursor_monotone_over_history (ans : Bytes → TiAns) (ticks : List (Option Int × (Nat → Int → Option Page) × Nat))
    (hp : ∀ t ∈ ticks, NeverBack t.2.1) (s : WState) :
    s.fromIndex ≤ (ticks.foldl (fun st t => (fetchTick ans t.1 t.2.1 t.2.2 st).1) s).fromIndex := by
  induction ticks generalizing s with
  | nil => exact Int.le_refl _
  | cons t rest ih =>
    rw [List.foldl_cons]
    exact Int.le_trans (cursor_never_moves_back (hp t List.mem_cons_self) ans t.1 t.2.2 s)
      (ih (fun t' ht' => hp t' (List.mem_cons_of_mem _ ht')) _)

/-- **A dip served by the lagging backend changes nothing.**  The count is below the cursor and the page request reaches the same
backend, which holds nothing at the cursor (no events, `nextStart = start`): the watcher is exactly as before and an empty
batch goes to the event loop. -/
theorem dip_tick_lagging (ans : Bytes → TiAns) (c : Int) (page : Nat → Int → Option Page) (fuel : Nat) (s : WState)
    (hc : c < s.fromIndex) (hpg : page 0 s.fromIndex = some ⟨[], s.fromIndex⟩) :
    fetchTick ans (some c) page (fuel + 1) s = (s, some []) := by
  have hne : c ≠ s.fromIndex := Int.ne_of_lt hc
  have hge : s.fromIndex ≥ c := Int.le_of_lt hc
  -- the first page's `nextStart` is the cursor, which is `≥ c`: the loop ends there, and an empty batch changes nothing
  simp [fetchTick, hne, pageLoop, hpg, hge, handleUnconfirmed, stepBatch, addBatch]

/-- **A dip whose page request reaches a healthy backend** (one that serves the append-only log consistently): one page request,
and what is handed over is the admissible part of the positions `[f, n)` from the cursor `f` on — nothing before the cursor,
however far below it the count was. -/
theorem dip_tick_healthy {log : List Event} {vis size : Nat → Nat} {page : Nat → Int → Option Page}
    (hc : Consistent log vis size page) (ans : Bytes → TiAns) (s : WState) (f : Nat) (c : Int) (fuel : Nat)
    (hf : s.fromIndex = f) (hcf : c < f) (hfv : f ≤ vis 0) :
    ∃ n : Nat, f ≤ n ∧ n ≤ log.length ∧
      (fetchTick ans (some c) page (fuel + 1) s).2 = some (handleUnconfirmed ans ((log.drop f).take (n - f))) ∧
      (fetchTick ans (some c) page (fuel + 1) s).1.fromIndex = n := by
  have hcf' : c.toNat ≤ f := Int.toNat_le.2 (Int.le_of_lt hcf)
  obtain ⟨n, r, h, h1, _, h3, _⟩ := pageLoop_consistent hc c (Nat.le_trans hcf' hfv) (fuel + 1) 0 f [] hfv
    (Nat.succ_pos fuel) (Nat.le_trans hcf' (Nat.le_add_right f _))
  have hne : c ≠ s.fromIndex := hf ▸ Int.ne_of_lt hcf
  rw [← hf] at h
  rw [fetchTick_of_done hne h]
  exact ⟨n, h1, h3, rfl, rfl⟩

/-- After any number of dips served by the lagging backend, the first tick with a right count against a consistent node hands
over the admissible part of `[f, n)` from where the cursor stood before the dips: every position once, none again. -/
theorem dips_then_recovery {log : List Event} {vis size : Nat → Nat} {page : Nat → Int → Option Page}
    (hc : Consistent log vis size page) (ans : Bytes → TiAns) (s : WState) (f c fuel : Nat)
    (dips : List (Int × (Nat → Int → Option Page) × Nat))
    (hdip : ∀ d ∈ dips, d.1 < s.fromIndex ∧ d.2.1 0 s.fromIndex = some ⟨[], s.fromIndex⟩)
    (hf : s.fromIndex = f) (hfc : f < c) (hcv : c ≤ vis 0) (hfuel : c - f ≤ fuel) :
    let s' := dips.foldl (fun st d => (fetchTick ans (some d.1) d.2.1 (d.2.2 + 1) st).1) s
    ∃ n : Nat, c ≤ n ∧ n ≤ log.length ∧
      (fetchTick ans (some c) page fuel s').2 = some (handleUnconfirmed ans ((log.drop f).take (n - f))) := by
  intro s'
  -- as in `keep_survives_failures`: every dip returns `s` itself
  have hs : s' = s :=
    List.foldl_eq_self fun d hd => congrArg Prod.fst (dip_tick_lagging ans d.1 d.2.1 d.2.2 s (hdip d hd).1 (hdip d hd).2)
  obtain ⟨n, h1, h2, h3, _, _⟩ := fetch_tick hc ans s f c fuel hf hfc hcv hfuel
  exact ⟨n, h1, h2, by rw [hs]; exact h3⟩

/-- the lagging backend of `exPageF`'s node: it holds the first `have` of the three events and nothing beyond -/
private def exPageLag (have_ : Nat) : Nat → Int → Option Page := fun _ s =>
  if s.toNat ≥ have_ then some ⟨[], s⟩ else some ⟨(exLogF.drop s.toNat).take 1, (min (s.toNat + 1) have_ : Nat)⟩

/-- **Letting the cursor follow a lower count hands messages over twice** — the witness: three token-bridge messages fetched
(sequences 10, 11, 12; cursor 3), one count poll answers 1, the next one 3 again.  The watcher whose cursor follows the count
fetches and hands over sequences 11 and 12 a second time; the pinned loop asks the lagging backend for a page at its cursor,
gets nothing, stays at 3 and hands over nothing again. -/
theorem following_the_count_refetches :
    seqsOf (fetchTickFollow (fun _ => .apiErr) (some 3) (exPageF none) 5 {}) = some [10, 11, 12] ∧
    (fetchTickFollow (fun _ => .apiErr) (some 1) (exPageLag 1) 5 (fetchTickFollow (fun _ => .apiErr) (some 3) (exPageF none) 5 {}).1).1.fromIndex = 1 ∧
    seqsOf (fetchTickFollow (fun _ => .apiErr) (some 3) (exPageF none) 5
      (fetchTickFollow (fun _ => .apiErr) (some 1) (exPageLag 1) 5 (fetchTickFollow (fun _ => .apiErr) (some 3) (exPageF none) 5 {}).1).1) = some [11, 12] ∧
    seqsOf (fetchTick (fun _ => .apiErr) (some 1) (exPageLag 1) 5 (fetchTick (fun _ => .apiErr) (some 3) (exPageF none) 5 {}).1) = some [] ∧
    (fetchTick (fun _ => .apiErr) (some 1) (exPageLag 1) 5 (fetchTick (fun _ => .apiErr) (some 3) (exPageF none) 5 {}).1).1.fromIndex = 3 ∧
    seqsOf (fetchTick (fun _ => .apiErr) (some 3) (exPageF none) 5
      (fetchTick (fun _ => .apiErr) (some 1) (exPageLag 1) 5 (fetchTick (fun _ => .apiErr) (some 3) (exPageF none) 5 {}).1).1) = none := by
  decide +kernel

-- the hypotheses of the dip theorems on the example node: it never sends a client back; the lagging backend has nothing at cursor 3
example : NeverBack (exPageLag 1) := by
  intro k s p h
  simp only [exPageLag] at h
  split at h
  · cases h; exact Int.le_refl _
  · cases h; simp only; omega
example : exPageLag 1 0 3 = some ⟨[], 3⟩ := by simp [exPageLag]
example : fetchTick (fun _ => .apiErr) (some 1) (exPageLag 1) 5 { fromIndex := 3 } = ({ fromIndex := 3 }, some []) :=
  dip_tick_lagging _ 1 (exPageLag 1) 4 { fromIndex := 3 } (by decide) (by simp [exPageLag])
example : Consistent exLog3 (fun _ => 3) (fun _ => 2) exPage3 ∧ ((0 : Int) < (2 : Nat)) ∧ 2 ≤ (fun _ : Nat => 3) 0 := ⟨
  { size_pos := fun _ => by decide, vis_mono := fun _ => Nat.le_refl _, vis_le := fun _ => by decide, answer := fun k s _ => by simp [exPage3] }, by decide, by decide⟩

/-! ## token metadata is asked for in the token's own group

`ans` — the answers of the token contracts — is indexed by the token id alone: the model asks for the metadata of token `t`
where `t` lives (the group is the last byte of the id), whatever group the bridge is configured for.  So a genuine attestation
is delivered whatever the two groups are: `genuine_attest_delivered` above has no hypothesis about them. -/

end Whv.C09
