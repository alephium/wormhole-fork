import Whv.Lemmas.Evm
/-!
# C10 — EVM messages reach the signer only from the core contract and when final

Model: `Whv/Model/Evm.lean` (per-head loop `classify`/`processHead` following `watcher.go` as repaired by
`fixes/C10-head-jump-and-transient-error.diff`, re-observation `messageEvents`/`reobserve` following
`by_transaction.go` + `watcher.go:225-312`, poller `pollBlocks`, `restart` = the supervisor calling `Run` again on the same
`Watcher` after it returned with an error).  Event sequences (`Ev`, `run`) are in
`Whv/Lemmas/Evm.lean`; heads in a sequence are arbitrary naturals, so every sequence theorem covers every head increment.

Node answers are inputs (`rc : tx ↦ (receipt, err)`), so "final" is relative to them, as in the statement.
`NoOverflow` excludes block heights within `cl + maxWait` of 2^64 (315 = 255 + 60 for a uint8 level and the default window;
uint64 wrap-around is modelled, not assumed away).
-/
namespace Whv.C10
open Whv Whv.Evm

private def tx1 : Bytes := [0xaa, 1]
private def bh1 : Bytes := [0xbb, 1]
private def bh2 : Bytes := [0xbb, 2]
private def cfgBsc : Cfg := { contract := [0xc0], chainId := 4, dev := false, wait := true }
private def cfgEth : Cfg := { contract := [0xc0], chainId := 2, dev := false, wait := false }
private def ev1 : Event := { sender := [7], targetChain := 0, seq := 5, nonce := 9, payload := [1, 2], cl := 2, rawTx := tx1, rawBh := bh1, rawBn := 101 }
private def p1 : Pend := mkPend cfgBsc ev1 1700000000
private def good1 : Bytes → RcAns := fun _ => goodRc p1
private def topic1 : Bytes := [0xcd]
private def log1 : ChainLog := { addr := [0xc0], topics := [topic1, [7]], ev := ev1, bt := 1700000000 }

example : NoOverflow cfgBsc p1 ∧ UniqueKeys [p1] := by unfold NoOverflow UniqueKeys; decide

/-- **Forwarded ⇒ final.** Whatever one processed head hands to the signing pipeline was pending, its receipt lookup
succeeded with status 1 and the block hash the log was seen in *at that moment*, and `height + conf ≤ head`. -/
theorem c10_forwarded (cfg : Cfg) (safe : Bool) (H : Nat) (rc : Bytes → RcAns) (s : List Pend) (q : Pend)
    (hq : q ∈ (processHead cfg safe H rc s).forwarded) (hno : NoOverflow cfg q) :
    q ∈ s ∧ rc q.msg.tx = goodRc q ∧ q.height + expConf cfg safe q ≤ H % U64 ∧ q.height + expConf cfg safe q ≤ H := by
  obtain ⟨hs, hr, ha⟩ := (mem_forwarded_iff hno).1 hq
  exact ⟨hs, ha, hr, Nat.le_trans hr (Nat.mod_le _ _)⟩

example : p1 ∈ (processHead cfgBsc false 171 good1 [p1]).forwarded := by decide +kernel

/-- **Confirmation rule.** The required depth is the message's consistency level iff the watcher honours consistency
levels and the head is not a "safe" head; otherwise zero. -/
theorem c10_conf_rule (cfg : Cfg) (safe : Bool) (p : Pend) :
    expConf cfg safe p = if cfg.wait = true ∧ safe = false then p.msg.cl else 0 := by
  unfold expConf
  cases cfg.wait <;> cases safe <;> simp

example : expConf cfgBsc false p1 = 2 ∧ expConf cfgBsc true p1 = 0 ∧ expConf cfgEth false p1 = 0 := by decide +kernel

/-- **Dropped.** At a head that has reached the message's depth, a transaction that is not found (orphaned), failed, or
sits in another block (re-mined) is removed from pending and not forwarded. -/
theorem c10_dropped (cfg : Cfg) (safe : Bool) (H : Nat) (rc : Bytes → RcAns) (s : List Pend) (p : Pend)
    (hno : NoOverflow cfg p) (hready : p.height + expConf cfg safe p ≤ H % U64)
    (hbad : ((rc p.msg.tx).tx = none ∧ (rc p.msg.tx).err = .none) ∨ (rc p.msg.tx).err = .noResult ∨ (rc p.msg.tx).err = .notFound ∨
            (∃ r, (rc p.msg.tx).tx = some r ∧ (rc p.msg.tx).err = .none ∧ (r.status ≠ 1 ∨ r.bh ≠ p.key.bh))) :
    p ∉ (processHead cfg safe H rc s).pending ∧ p ∉ (processHead cfg safe H rc s).forwarded := by
  obtain ⟨hother, hgood⟩ := against_iff.1 hbad
  exact ⟨fun h => hother (((mem_pending_iff hno).1 h).2 hready).1,
    fun h => hgood ((mem_forwarded_iff hno).1 h).2.2⟩

example : (processHead cfgBsc false 110 (fun _ => ⟨some ⟨1, bh2⟩, .none⟩) [p1]).pending = [] ∧
          (processHead cfgBsc false 110 (fun _ => ⟨some ⟨1, bh2⟩, .none⟩) [p1]).forwarded = [] := by decide +kernel

/-- **Nothing leaves the pending set without cause.** An entry that one processed head removes had reached its depth, and
was either forwarded, or the node answered conclusively against it (not found / failed / another block), or the lookup failed
transiently at a head beyond the abandonment window. -/
theorem c10_removed_only_for_cause (cfg : Cfg) (safe : Bool) (H : Nat) (rc : Bytes → RcAns) (s : List Pend) (p : Pend)
    (hp : p ∈ s) (hno : NoOverflow cfg p) (hgone : p ∉ (processHead cfg safe H rc s).pending) :
    p.height + expConf cfg safe p ≤ H % U64 ∧
    (p ∈ (processHead cfg safe H rc s).forwarded ∨
     (((rc p.msg.tx).tx = none ∧ (rc p.msg.tx).err = .none) ∨ (rc p.msg.tx).err = .noResult ∨ (rc p.msg.tx).err = .notFound) ∨
     (∃ r, (rc p.msg.tx).tx = some r ∧ (rc p.msg.tx).err = .none ∧ (r.status ≠ 1 ∨ r.bh ≠ p.key.bh)) ∨
     ((rc p.msg.tx).err = .other ∧ p.height + expConf cfg safe p + cfg.maxWait ≤ H % U64)) := by
  -- not kept: the entry was ready and the answer was not a transient error inside the window
  have hnk := mt (fun h => (mem_pending_iff hno).2 ⟨hp, h⟩) hgone
  obtain ⟨hr, hn⟩ := Decidable.not_imp_iff_and_not.1 hnk
  refine ⟨hr, ?_⟩
  by_cases hg : rc p.msg.tx = goodRc p
  · exact Or.inl ((mem_forwarded_iff hno).2 ⟨hp, hr, hg⟩)
  by_cases ho : (rc p.msg.tx).err = .other
  · exact Or.inr (Or.inr (Or.inr ⟨ho, Nat.le_of_not_lt fun hlt => hn ⟨ho, hlt⟩⟩))
  · have hag : Against (rc p.msg.tx) p.key.bh := against_iff.2 ⟨ho, hg⟩
    -- the statement brackets the four shapes of `Against` as `(_ ∨ _ ∨ _) ∨ _ ∨ …`
    right
    rw [← or_assoc]
    left
    simp only [or_assoc]
    exact hag

example : p1 ∉ (processHead cfgBsc false 163 (fun _ => ⟨none, .other⟩) [p1]).pending ∧
          p1 ∈ (processHead cfgBsc false 162 (fun _ => ⟨none, .other⟩) [p1]).pending := by decide +kernel

/-- **Only observed messages of the core contract.** Anything ever forwarded in a run was either pending at the start or
is exactly the message built from a chain log that the node delivered under the watcher's subscription filter: emitted by the
configured contract with the message-published topic. -/
theorem c10_only_from_core_contract (cfg : Cfg) (topic : Bytes) (evs : List Ev) :
    ∀ s : List Pend, ∀ f ∈ (run cfg topic s evs).2, ∀ q ∈ f,
      q ∈ s ∨ ∃ l, Ev.log l ∈ evs ∧ l.addr = cfg.contract ∧ l.topics.head? = some topic ∧ q = mkPend cfg l.ev l.bt := fun _ =>
  (run_invariant (fun _ => Or.inl) fun _ he l hl hm =>
    Or.inr ⟨l, hl ▸ he, (nodeMatches_iff.1 hm).1, (nodeMatches_iff.1 hm).2, rfl⟩).2

example : (run cfgBsc topic1 [] [.log log1, .head 103 false good1]).2 = [[], [p1]] := by decide +kernel

/-! ## Exactly once, for every head increment -/

/-- **Exactly once.** Let `p` be pending, let its key not be delivered again, and let every processed head find a
successful receipt pointing at `p`'s block. Then over *any* sequence of events — heads may advance by any amount — `p` is
forwarded exactly once if some processed head reaches `height + conf`, never otherwise, and it stays pending exactly as
long as no such head has been processed. -/
theorem c10_exactly_once (cfg : Cfg) (topic : Bytes) (evs : List Ev) :
    ∀ (s : List Pend) (p : Pend), UniqueKeys s → p ∈ s → NoOverflow cfg p → (∀ e ∈ evs, Stable cfg topic p e) →
      fwdCount p.key (run cfg topic s evs).2 = (if evs.any (readyAt cfg p) then 1 else 0) ∧
      (p ∈ (run cfg topic s evs).1 ↔ evs.any (readyAt cfg p) = false) := by
  induction evs with
  | nil =>
    intro s p _ hp _ _
    simp [run, fwdCount, hp]
  | cons e es ih =>
    intro s p hu hp hno hst
    have hst' : ∀ e' ∈ es, Stable cfg topic p e' := fun e' he' => hst e' (List.mem_cons_of_mem _ he')
    obtain ⟨hcount, hstay, hgone⟩ := stepEv_stable hu hp hno (hst e List.mem_cons_self)
    rw [run, fwdCount_cons, hcount, List.any_cons]
    cases hr : readyAt cfg p e
    · rw [Bool.false_or, if_neg Bool.false_ne_true, Nat.zero_add]
      exact ih _ p (stepEv_unique cfg topic s e hu) (hstay hr) hno hst'
    · -- `p` has been handed over and its key is gone for good
      obtain ⟨h1, h2⟩ := run_invariant (evs := es) (hgone hr) fun e' he' l hl hm => by
        subst hl
        exact hst' _ he' hm
      rw [fwdCount_eq_zero h2, Bool.true_or]
      exact ⟨rfl, fun hin => absurd rfl (h1 p hin), nofun⟩

example : fwdCount p1.key (run cfgBsc topic1 [p1] [.head 102 false good1, .head 171 false good1, .head 172 false good1]).2 = 1 := by decide +kernel

/-- **At the first head that is deep enough, whatever the increment.** If no earlier processed head had reached the depth and
the head processed now has — by one block or by ten thousand — the message is forwarded at this very event. -/
theorem c10_forwarded_at_first_ready (cfg : Cfg) (topic : Bytes) (s : List Pend) (p : Pend) (pre : List Ev)
    (H : Nat) (safe : Bool) (rc : Bytes → RcAns)
    (hu : UniqueKeys s) (hp : p ∈ s) (hno : NoOverflow cfg p) (hst : ∀ e ∈ pre, Stable cfg topic p e)
    (hpre : pre.any (readyAt cfg p) = false) (hrc : rc p.msg.tx = goodRc p)
    (hready : p.height + expConf cfg safe p ≤ H % U64) :
    p ∈ (stepEv cfg topic (run cfg topic s pre).1 (.head H safe rc)).2 :=
  (mem_forwarded_iff hno).2 ⟨((c10_exactly_once cfg topic pre s p hu hp hno hst).2).2 hpre, hready, hrc⟩

example : p1 ∈ (stepEv cfgBsc topic1 (run cfgBsc topic1 [p1] [.head 102 false good1]).1 (.head 100000 false good1)).2 := by decide +kernel

/-- **Every head increment**, spelled out for one step: a pending message whose receipt is fine is forwarded by a head that
is `d` blocks beyond its depth, for every `d` (in particular `d ≥ 60`, where the pinned code abandoned it). -/
theorem c10_any_head_increment (cfg : Cfg) (safe : Bool) (rc : Bytes → RcAns) (s : List Pend) (p : Pend) (d : Nat)
    (hp : p ∈ s) (hno : NoOverflow cfg p) (hrc : rc p.msg.tx = goodRc p)
    (hH : p.height + expConf cfg safe p + d < U64) :
    p ∈ (processHead cfg safe (p.height + expConf cfg safe p + d) rc s).forwarded := by
  refine (mem_forwarded_iff hno).2 ⟨hp, ?_, hrc⟩
  rw [Nat.mod_eq_of_lt hH]
  exact Nat.le_add_right _ _

example : p1 ∈ (processHead cfgBsc false (101 + 2 + 68) good1 [p1]).forwarded := by decide +kernel

/-- The loop body of the pinned tree (`classifyOrig`: timeout test first) violates the previous theorem: log at block 101,
consistency level 2, head 171, receipt fine — discarded as timed out, nothing forwarded. This is the input the check reports
on the unrepaired tree (clause `final-not-forwarded`). -/
theorem c10_orig_head_jump_witness :
    ¬ (∀ d, p1 ∈ (processHeadWith classifyOrig cfgBsc false (p1.height + expConf cfgBsc false p1 + d) good1 [p1]).forwarded) := by
  exact fun h => absurd (h 68) (by decide +kernel)

/-- The pinned loop body also abandons a message on the first transient RPC error (`tx == nil` is classified as orphaned):
a lookup that failed with an unrelated error at the first ready head removes the message (clause `transient-error-dropped`). -/
theorem c10_orig_transient_witness :
    (processHeadWith classifyOrig cfgBsc false 103 (fun _ => ⟨none, .other⟩) [p1]).pending = [] ∧
    (processHead cfgBsc false 103 (fun _ => ⟨none, .other⟩) [p1]).pending = [p1] := by decide +kernel

private theorem survives (cfg : Cfg) (topic : Bytes) (p : Pend) (evs : List Ev) :
    ∀ s : List Pend, (∀ e ∈ evs, NoRelog cfg topic p e) → p ∈ (run cfg topic s evs).1 →
      p ∈ s ∧ ∀ e ∈ evs, ∀ H safe rc, e = .head H safe rc → (classify cfg safe (H % U64) (rc p.msg.tx) p).keeps = true := by
  induction evs with
  | nil => intro s _ hp; exact ⟨hp, nofun⟩
  | cons e es ih =>
    intro s hnr hp
    obtain ⟨h1, h2⟩ := ih _ (fun e' he' => hnr e' (List.mem_cons_of_mem _ he')) hp
    have hps : p ∈ s := by
      rcases mem_stepEv h1 with h | ⟨l, rfl, hm, hq⟩
      · exact h
      · exact absurd (congrArg Pend.key hq.symm) (hnr _ List.mem_cons_self hm)
    refine ⟨hps, fun e' he' H safe rc heq => ?_⟩
    rcases List.mem_cons.1 he' with rfl | he'
    · subst heq
      exact (List.mem_filter.1 h1).2
    · exact h2 e' he' H safe rc heq

/-- **Abandoned only after the whole window.** If a message that survived a sequence of events is removed as "timed out" at
head `H`, then `H` is at least `height + conf + 60`, the receipt lookup made at `H` failed with a transient error, and at
every earlier processed head that had reached its depth the lookup had also failed with a transient error (no head of the
window was processed with a conclusive answer): the node failed to confirm it for the whole abandonment window. -/
theorem c10_abandon_only_after_window (cfg : Cfg) (topic : Bytes) (s : List Pend) (p : Pend) (evs : List Ev)
    (H : Nat) (safe : Bool) (rc : Bytes → RcAns)
    (hno : NoOverflow cfg p) (hnr : ∀ e ∈ evs, NoRelog cfg topic p e) (hp : p ∈ (run cfg topic s evs).1)
    (hto : classify cfg safe (H % U64) (rc p.msg.tx) p = .timeout) :
    p.height + expConf cfg safe p + cfg.maxWait ≤ H % U64 ∧ (rc p.msg.tx).err = .other ∧
    ∀ e ∈ evs, ∀ H' safe' rc', e = .head H' safe' rc' → p.height + expConf cfg safe' p ≤ H' % U64 →
      (rc' p.msg.tx).err = .other ∧ H' % U64 < p.height + expConf cfg safe' p + cfg.maxWait := by
  obtain ⟨hother, hwin⟩ := (classify_eq_timeout_iff hno).1 hto
  exact ⟨hwin, hother, fun e he H' safe' rc' heq hready =>
    (classify_keeps_iff hno).1 ((survives cfg topic p evs s hnr hp).2 e he H' safe' rc' heq) hready⟩

private def flaky : Bytes → RcAns := fun _ => ⟨none, .other⟩

example : p1 ∈ (run cfgBsc topic1 [p1] [.head 103 false flaky, .head 162 false flaky]).1 ∧
          classify cfgBsc false (163 % U64) (flaky p1.msg.tx) p1 = .timeout := by decide +kernel

/-- **The re-observation path applies the contract, topic, status and depth checks.** Every message it forwards comes from a
log of the receipt it was given that was emitted by the configured contract with the message-published topic, in a
transaction whose receipt has status 1, and `block number + conf ≤` the block number that was read *before* the receipt was
requested (`conf` = the message's consistency level iff `waitForConfirmations`), which was not 0. -/
theorem c10_reobserve_checks (cfg : Cfg) (topic : Bytes) (bnAns : Option Nat) (rc : Option Receipt) (rcErr : Bool)
    (bt : Option Nat) (m : Msg)
    (hm : m ∈ reobsForwarded cfg bnAns (messageEvents cfg.contract topic cfg.chainId rc rcErr bt)) :
    ∃ r t n bn l ev, rc = some r ∧ rcErr = false ∧ r.status = 1 ∧ bt = some t ∧ bnAns = some n ∧ r.bn = some bn ∧
      some l ∈ r.logs ∧ l.addr = cfg.contract ∧ l.topics.head? = some topic ∧ l.parse = some ev ∧
      m = mkMsg cfg.chainId ev t ∧ n % U64 ≠ 0 ∧
      add64 (bn % U64) (if cfg.wait then m.cl else 0) ≤ n % U64 := by
  obtain ⟨n, _, msgs, rfl, hevt, hmem, hz, hle⟩ := exists_of_mem_reobsForwarded hm
  obtain ⟨r, t, bn, rfl, rfl, hst, rfl, hloop, hbn, rfl⟩ := messageEvents_eq_ok_iff.1 hevt
  obtain ⟨l, ev, hl, ha, htp, hp, hmk⟩ := evtLoop_invariant
    (P := fun m => ∃ l ev, some l ∈ r.logs ∧ l.addr = cfg.contract ∧ l.topics.head? = some topic ∧ l.parse = some ev ∧
      m = mkMsg cfg.chainId ev t)
    hloop nofun (fun l ev h1 h2 h3 h4 => ⟨l, ev, h1, h2, h3, h4, rfl⟩) m hmem
  exact ⟨r, t, n, bn, l, ev, rfl, rfl, hst, rfl, rfl, hbn, hl, ha, htp, hp, hmk, hz, hle⟩

private def rlog1 : RLog := { addr := [0xc0], topics := [topic1, [7]], parse := some ev1 }
private def rlogForeign : RLog := { addr := [0xc1], topics := [topic1, [7]], parse := some ev1 }
private def receipt1 : Receipt := { status := 1, bh := bh1, bn := some 101, logs := [some rlogForeign, none, some rlog1] }

example : reobsForwarded cfgBsc (some 103) (messageEvents cfgBsc.contract topic1 cfgBsc.chainId (some receipt1) false (some 1700000000))
    = [mkMsg 4 ev1 1700000000] := by decide +kernel
example : reobsForwarded cfgBsc (some 102) (messageEvents cfgBsc.contract topic1 cfgBsc.chainId (some receipt1) false (some 1700000000)) = [] := by decide +kernel

/-- **A re-observed message carries the time of the block its receipt points to in THIS request.** `bt` is what the node answers
for `receipt.BlockHash` during the request; nothing resolved by an earlier request (for the same transaction, the same height, the
same anything) enters.  So after a reorg that re-mines the transaction at the same height in a block with another time, the
message handed over has the new block's time — the one every other guardian signs. -/
theorem c10_reobserved_timestamp_is_block_time (cfg : Cfg) (topic : Bytes) (bnAns : Option Nat) (rc : Option Receipt)
    (rcErr : Bool) (bt : Option Nat) (m : Msg)
    (hm : m ∈ reobsForwarded cfg bnAns (messageEvents cfg.contract topic cfg.chainId rc rcErr bt)) : bt = some m.ts := by
  obtain ⟨_r, t, _n, _bn, _l, ev, _hrc, _herr, _hst, hbt, _hn, _hbn, _hl, _ha, _htp, _hp, hmk, _hz, _hle⟩ :=
    c10_reobserve_checks cfg topic bnAns rc rcErr bt m hm
  rw [hbt, hmk]
  rfl

-- the same transaction at the same height in two blocks (other hash, other time): each request yields its own block's time
example : (reobsForwarded cfgBsc (some 103) (messageEvents cfgBsc.contract topic1 cfgBsc.chainId (some receipt1) false (some 1700000000))).map (·.ts) = [1700000000] ∧
    (reobsForwarded cfgBsc (some 103) (messageEvents cfgBsc.contract topic1 cfgBsc.chainId (some { receipt1 with bh := [0xb2] }) false (some 1700000012))).map (·.ts) = [1700000012] := by
  decide +kernel

/-- **Where `MessageEventsForTransaction` can panic.** With a non-nil receipt that carries a block number, and no topic-less
log at the core contract's address, it does not panic — whatever else the node answers. (The three excluded shapes do
panic: `EvtRes.panic`, confirmed against the implementation on the direct layer; none arises with a standard node.) -/
theorem c10_reobserve_no_panic (contract topic : Bytes) (chainId : Nat) (r : Receipt) (rcErr : Bool) (bt : Option Nat)
    (hlogs : ∀ l, some l ∈ r.logs → l.addr = contract → l.topics ≠ []) (hbn : r.bn ≠ none) :
    messageEvents contract topic chainId (some r) rcErr bt ≠ .panic := by
  generalize hrc : some r = rc
  fun_cases messageEvents contract topic chainId rc rcErr bt
  case case2 => cases hrc                       -- nil receipt
  case case5 _ _ _ t hloop =>                   -- the loop panics
    cases hrc
    exact absurd hloop (evtLoop_no_panic hlogs)
  case case7 _ _ _ _ _ _ hnone =>               -- nil block number
    cases hrc
    exact absurd hnone hbn
  all_goals nofun                               -- every other branch returns an error or a result

example : messageEvents [0xc0] topic1 4 (some { receipt1 with logs := [some { rlog1 with topics := [] }] }) false (some 1) = .panic := by decide +kernel

/-! ## Poller: which heads the watcher gets to see -/

/-- **The poller publishes only a strictly newer head, and only the newest one** — which is why the per-head loop has to be
correct for every increment. `settle` processes a head only when the poller is enabled and the head is above the last one. -/
theorem c10_poller_newest_only (last : Nat) (ans : BlockAns) (safe : Bool) :
    (∀ n s, (pollBlocks last ans safe).2.1 = some (n, s) → ans = .ok n ∧ last < n ∧ (pollBlocks last ans safe).1 = n ∧ s = safe) ∧
    ((pollBlocks last ans safe).2.1 = none → (pollBlocks last ans safe).1 = last) := by
  cases ans with
  | ok n =>
    rw [pollBlocks_ok]
    split
    · exact ⟨nofun, fun _ => rfl⟩
    · next h =>
      refine ⟨fun n' s heq => ?_, nofun⟩
      cases heq
      exact ⟨rfl, Nat.lt_of_not_le h, rfl, rfl⟩
  | noNum | err => exact ⟨nofun, fun _ => rfl⟩

example : pollBlocks 101 (.ok 171) false = (171, some (171, false), false) ∧ pollBlocks 171 (.ok 171) false = (171, none, false) := by decide +kernel

/-- A head is processed only when the poller is on and the head is above its last block, which then moves to that head. -/
theorem c10_settle_head_seen (cfg : Cfg) (st : St) (W : Nat) (rc : Bytes → RcAns) (r : HeadRes)
    (h : (settle cfg st W rc).2 = some r) :
    st.enabled = true ∧ st.last < W ∧ (settle cfg st W rc).1.last = W ∧
    r.forwarded = (processHead cfg false W rc st.pending).forwarded := by
  rcases settle_cases cfg st W rc with ⟨he, hW, hs⟩ | ⟨_, hs⟩
  · rw [hs] at h ⊢
    cases h
    exact ⟨he, hW, rfl, rfl⟩
  · rw [hs] at h  -- no head was processed
    cases h

example : ((settle cfgBsc { pending := [p1], enabled := true, last := 101 } 171 good1).2.map (·.forwarded)) = some [p1] := by decide +kernel

/-- The poller is enabled whenever something is pending (so a pending message always gets the next head). -/
def PollerInv (st : St) : Prop := st.pending ≠ [] → st.enabled = true

theorem c10_poller_enabled_while_pending :
    (∀ cfg st ev bt, PollerInv (onLog cfg st ev bt)) ∧
    (∀ cfg st W rc, PollerInv st → PollerInv (settle cfg st W rc).1) := by
  refine ⟨fun cfg st ev bt _ => rfl, fun cfg st W rc hinv => ?_⟩
  rcases settle_cases cfg st W rc with ⟨_, _, hs⟩ | ⟨_, hs⟩ <;> rw [hs]
  · intro hne
    rw [List.isEmpty_eq_false_iff.2 hne]
    rfl
  · exact hinv

example : PollerInv (onLog cfgBsc { pending := [], enabled := false, last := 100 } ev1 1700000000) := fun _ => rfl

/-- **Watcher and poller together, any increment.** From a state reached by log deliveries and earlier heads (`PollerInv`), a
pending message whose receipt is fine is forwarded by the very next head the node reports above the poller's last block, if
that head is at or beyond `height + conf` — by however much. -/
theorem c10_settle_forwards (cfg : Cfg) (st : St) (W : Nat) (rc : Bytes → RcAns) (p : Pend)
    (hinv : PollerInv st) (hp : p ∈ st.pending) (hW : st.last < W) (hlt : W < U64) (hno : NoOverflow cfg p)
    (hrc : rc p.msg.tx = goodRc p) (hready : p.height + expConf cfg false p ≤ W) :
    ∃ r, (settle cfg st W rc).2 = some r ∧ p ∈ r.forwarded ∧ p ∉ (settle cfg st W rc).1.pending := by
  obtain ⟨_, _, hs⟩ | ⟨hn, _⟩ := settle_cases cfg st W rc
  · rw [hs]
    have hr : p.height + expConf cfg false p ≤ W % U64 := by rwa [Nat.mod_eq_of_lt hlt]
    refine ⟨_, rfl, (mem_forwarded_iff hno).2 ⟨hp, hr, hrc⟩, fun h => ?_⟩
    have := (((mem_pending_iff hno).1 h).2 hr).1
    rw [hrc] at this
    cases this
  · exact absurd ⟨hinv (List.ne_nil_of_mem hp), hW⟩ hn

-- the hypotheses `hinv`, `hW` of `c10_settle_forwards` for head 100000 after block 101
example : PollerInv { pending := [p1], enabled := true, last := 101 } ∧ (101 : Nat) < 100000 := ⟨fun _ => rfl, by decide⟩

/-! ## A log delivered while a head is being processed -/

private def ev2 : Event := { sender := [8], targetChain := 0, seq := 6, nonce := 3, payload := [4], cl := 1, rawTx := [0xaa, 2], rawBh := [0xbb, 9], rawBn := 104 }
private def p2 : Pend := mkPend cfgBsc ev2 1700000002
private def stRace : St := { pending := [p1], enabled := true, last := 101 }
private def goodAll : Bytes → RcAns := fun tx => if tx = p1.msg.tx then goodRc p1 else goodRc p2

/-- **A log that arrives during a head scan is kept.** The scan and the insertion are serialised by `pendingMu`
(`headThenLog`): the new message is pending afterwards and the poller is on, what the scan forwarded is what it would have
forwarded without the arrival, and every entry the scan kept (under another key) is still there. -/
theorem c10_log_during_head_kept (cfg : Cfg) (st : St) (W : Nat) (rc : Bytes → RcAns) (ev : Event) (bt : Nat) :
    mkPend cfg ev bt ∈ (headThenLog cfg st W rc ev bt).1.pending ∧
    (headThenLog cfg st W rc ev bt).1.enabled = true ∧
    (headThenLog cfg st W rc ev bt).2 = (settle cfg st W rc).2 ∧
    ∀ q ∈ (settle cfg st W rc).1.pending, q.key ≠ (mkPend cfg ev bt).key → q ∈ (headThenLog cfg st W rc ev bt).1.pending :=
  ⟨mem_insertPend_self, rfl, rfl, fun _ hq hk => mem_insertPend_of_ne hk hq⟩

example : (headThenLog cfgBsc stRace 103 goodAll ev2 1700000002).1.pending = [p2] ∧
          ((headThenLog cfgBsc stRace 103 goodAll ev2 1700000002).2.map (·.forwarded)) = some [p1] := by decide +kernel

/-- **... and is forwarded exactly once after its depth is reached.** After a head scan during which the log of `b` arrived,
over any further sequence of events (heads advancing by any amount) in which `b`'s key is not delivered again and every
processed head finds a successful receipt pointing at `b`'s block, `b` is forwarded exactly once if some processed head
reaches `height + conf`, and never otherwise. -/
theorem c10_log_during_head_forwarded_once (cfg : Cfg) (topic : Bytes) (st : St) (W : Nat) (rc : Bytes → RcAns) (ev : Event)
    (bt : Nat) (evs : List Ev)
    (hu : UniqueKeys st.pending) (hno : NoOverflow cfg (mkPend cfg ev bt))
    (hst : ∀ e ∈ evs, Stable cfg topic (mkPend cfg ev bt) e) :
    fwdCount (mkPend cfg ev bt).key (run cfg topic (headThenLog cfg st W rc ev bt).1.pending evs).2 =
      (if evs.any (readyAt cfg (mkPend cfg ev bt)) then 1 else 0) :=
  (c10_exactly_once cfg topic evs _ _ (uniqueKeys_insert (uniqueKeys_settle hu)) mem_insertPend_self hno hst).1

example : fwdCount p2.key (run cfgBsc topic1 (headThenLog cfgBsc stRace 103 goodAll ev2 1700000002).1.pending
    [.head 104 false goodAll, .head 105 false goodAll, .head 175 false goodAll]).2 = 1 := by decide +kernel

/-- A scan that works on a copy of the pending set and assigns the copy back (`headSnapshotWriteBack`, not the code) violates
both theorems: log of `p1` at block 101 (cl 2), head 103 being processed while the log of `p2` (block 104, cl 1) arrives —
`p2` is not pending afterwards, the poller is off, and no later head forwards it although its receipt stays fine. This is the
input the check reports for such a change (clauses `final-not-forwarded` / `pending-lost`, op `race`). -/
theorem c10_snapshot_writeback_witness :
    p2 ∉ (headSnapshotWriteBack cfgBsc stRace 103 goodAll ev2 1700000002).1.pending ∧
    (headSnapshotWriteBack cfgBsc stRace 103 goodAll ev2 1700000002).1.enabled = false ∧
    fwdCount p2.key (run cfgBsc topic1 (headSnapshotWriteBack cfgBsc stRace 103 goodAll ev2 1700000002).1.pending
      [.head 105 false goodAll, .head 175 false goodAll]).2 = 0 ∧
    fwdCount p2.key (run cfgBsc topic1 (headThenLog cfgBsc stRace 103 goodAll ev2 1700000002).1.pending
      [.head 105 false goodAll, .head 175 false goodAll]).2 = 1 := by decide +kernel

/-! ## Which head the re-observation path reads -/

/-- **The re-observation path reads the head the poller reads**: the finalized head on a chain read at finalized height
(Ethereum outside dev mode), the latest head otherwise — requested under the corresponding block tag. -/
theorem c10_reobserve_head_by_mode (cfg : Cfg) (lat fin : Nat) :
    (cfg.useFinalized = true ↔ (cfg.chainId = 2 ∧ cfg.dev = false)) ∧
    (cfg.useFinalized = true → reobsHeadTag cfg = "finalized" ∧ reobsHead cfg lat fin = fin) ∧
    (cfg.useFinalized = false → reobsHeadTag cfg = "latest" ∧ reobsHead cfg lat fin = lat) := by
  refine ⟨?_, fun h => ?_, fun h => ?_⟩
  · unfold Cfg.useFinalized
    cases cfg.dev <;> simp
  all_goals simp [reobsHeadTag, reobsHead, blockTag, h]

example : reobsHeadTag cfgEth = "finalized" ∧ reobsHead cfgEth 132 100 = 100 ∧ reobsHeadTag cfgBsc = "latest" ∧ reobsHead cfgBsc 132 100 = 132 := by decide +kernel

/-- **Re-observation on a chain read at finalized height forwards only what is final.** With the head read as above, every
message the re-observation path forwards sits in a block whose number (plus the message's confirmations, when the watcher
honours them) is at most the *finalized* head — however far the latest head is ahead. -/
theorem c10_reobserve_final_on_finalized_chain (cfg : Cfg) (topic : Bytes) (lat fin : Nat) (rc : Option Receipt)
    (rcErr : Bool) (bt : Option Nat) (m : Msg) (hfin : cfg.useFinalized = true)
    (hm : m ∈ reobsForwarded cfg (some (reobsHead cfg lat fin)) (messageEvents cfg.contract topic cfg.chainId rc rcErr bt)) :
    ∃ r bn, rc = some r ∧ r.status = 1 ∧ r.bn = some bn ∧
      (bn % U64 + (if cfg.wait then m.cl else 0) < U64 → bn % U64 + (if cfg.wait then m.cl else 0) ≤ fin % U64) := by
  obtain ⟨r, _t, n, bn, _l, _ev, hrc, _herr, hst, _hbt, hn, hbn, _hl, _ha, _htp, _hp, _hmk, _hz, hle⟩ :=
    c10_reobserve_checks cfg topic (some (reobsHead cfg lat fin)) rc rcErr bt m hm
  refine ⟨r, bn, hrc, hst, hbn, fun hlt => ?_⟩
  cases hn
  rwa [add64, Nat.mod_eq_of_lt hlt, reobsHead, if_pos hfin] at hle

private def receiptFin : Receipt := { status := 1, bh := bh1, bn := some 121, logs := [some rlog1] }

example : reobsForwarded cfgEth (some (reobsHead cfgEth 132 100)) (messageEvents cfgEth.contract topic1 cfgEth.chainId (some receiptFin) false (some 1700000000)) = [] ∧
          reobsForwarded cfgEth (some (reobsHead cfgEth 153 121)) (messageEvents cfgEth.contract topic1 cfgEth.chainId (some receiptFin) false (some 1700000000)) = [mkMsg 2 ev1 1700000000] := by decide +kernel

/-! ## `Run` returns with an error and the supervisor starts it again on the same `Watcher` -/

/-- **A restart keeps what is pending.** `Run` never assigns `w.pending`; the new incarnation starts with the pending set the
old one left behind, a poller that is switched off, and the head the node serves at that moment as the poller's last block. -/
theorem c10_restart_keeps_pending (st : St) (W : Nat) :
    (restart st W).pending = st.pending ∧ (restart st W).enabled = false ∧ (restart st W).last = W := ⟨rfl, rfl, rfl⟩

example : (restart stRace 102).pending = [p1] := by decide +kernel

/-- **... so a message that was pending when `Run` returned is still forwarded exactly once.** Over any sequence of events of
the new incarnation (heads advancing by any amount) in which its key is not delivered again and every processed head finds a
successful receipt pointing at its block, it is forwarded exactly once if some processed head reaches `height + conf`, never
otherwise, and it stays pending exactly as long as no such head has been processed - it is not abandoned by the restart. -/
theorem c10_restart_forwarded_once (cfg : Cfg) (topic : Bytes) (st : St) (W : Nat) (evs : List Ev) (p : Pend)
    (hu : UniqueKeys st.pending) (hp : p ∈ st.pending) (hno : NoOverflow cfg p) (hst : ∀ e ∈ evs, Stable cfg topic p e) :
    fwdCount p.key (run cfg topic (restart st W).pending evs).2 = (if evs.any (readyAt cfg p) then 1 else 0) ∧
    (p ∈ (run cfg topic (restart st W).pending evs).1 ↔ evs.any (readyAt cfg p) = false) :=
  c10_exactly_once cfg topic evs _ p hu hp hno hst

example : fwdCount p1.key (run cfgBsc topic1 (restart stRace 102).pending [.head 102 false good1, .head 171 false good1, .head 172 false good1]).2 = 1 := by decide +kernel

/-- **Nothing is forwarded a second time because of a restart.** A key that is not pending when `Run` returns (its message was
forwarded or dropped by an earlier head) and is not delivered again is never forwarded by the new incarnation. -/
theorem c10_restart_no_second_forward (cfg : Cfg) (topic : Bytes) (st : St) (W : Nat) (k : Key) (evs : List Ev)
    (habs : ∀ q ∈ st.pending, q.key ≠ k)
    (hl : ∀ e ∈ evs, ∀ l, e = .log l → nodeMatches cfg topic l = true → (mkPend cfg l.ev l.bt).key ≠ k) :
    fwdCount k (run cfg topic (restart st W).pending evs).2 = 0 :=
  fwdCount_eq_zero (run_invariant habs hl).2

example : fwdCount p2.key (run cfgBsc topic1 (restart stRace 102).pending [.head 171 false goodAll]).2 = 0 := by decide +kernel

/-- **The next log switches the new poller on, and the next head forwards.** After a restart the poller is off although
something is pending (see the witness below); the log of any other message restores `PollerInv`, and the first head the node
then reports above the restarted poller's first block forwards every pending message that has reached its depth and whose
receipt is fine - by however much that head is ahead. -/
theorem c10_restart_log_head_forwards (cfg : Cfg) (st : St) (W : Nat) (ev : Event) (bt : Nat) (W' : Nat) (rc : Bytes → RcAns)
    (p : Pend) (hp : p ∈ st.pending) (hk : (mkPend cfg ev bt).key ≠ p.key) (hW : W < W') (hlt : W' < U64)
    (hno : NoOverflow cfg p) (hrc : rc p.msg.tx = goodRc p) (hready : p.height + expConf cfg false p ≤ W') :
    PollerInv (onLog cfg (restart st W) ev bt) ∧
    ∃ r, (settle cfg (onLog cfg (restart st W) ev bt) W' rc).2 = some r ∧ p ∈ r.forwarded ∧
      p ∉ (settle cfg (onLog cfg (restart st W) ev bt) W' rc).1.pending :=
  ⟨fun _ => rfl, c10_settle_forwards cfg _ W' rc p (fun _ => rfl) (mem_insertPend_of_ne hk.symm hp) hW hlt hno hrc hready⟩

example : ((settle cfgBsc (onLog cfgBsc (restart stRace 102) ev2 1700000002) 175 goodAll).2.map (·.forwarded)) = some [p2, p1] := by decide +kernel

/-- A `Run` that begins by re-creating the pending map (`restartFresh`, not the code) violates `c10_restart_keeps_pending` and
`c10_restart_forwarded_once`: `p1` (block 101, cl 2) is pending, `Run` returns and is restarted at head 102, the log of `p2`
switches the poller on, heads 105 and 175 are processed with every receipt fine - `p1` is never forwarded, although its
transaction stayed in its block and no receipt lookup for it ever failed. This is the input the check reports for such a change
(clauses `pending-lost` / `final-not-forwarded`, op `restart`). Last conjunct, about the code as it is: right after a restart
the poller is off although something is pending (`PollerInv` does not hold until the next log arrives). -/
theorem c10_restart_fresh_witness :
    p1 ∉ (restartFresh stRace 102).pending ∧
    fwdCount p1.key (run cfgBsc topic1 (onLog cfgBsc (restartFresh stRace 102) ev2 1700000002).pending
      [.head 105 false goodAll, .head 175 false goodAll]).2 = 0 ∧
    fwdCount p1.key (run cfgBsc topic1 (onLog cfgBsc (restart stRace 102) ev2 1700000002).pending
      [.head 105 false goodAll, .head 175 false goodAll]).2 = 1 ∧
    ¬ PollerInv (restart stRace 102) := by
  exact ⟨by decide +kernel, by decide +kernel, by decide +kernel, fun h => absurd (h (by decide)) (by decide)⟩

/-! ## The block poller's first query -/

/-- **The poller starts at the height the chain is read at - whatever fails.** Every first-block query of
`BlockPollConnector.run` (the first attempt and every re-run by the supervisor after a failed one) asks for the configured tag
(`finalized` on a chain read at finalized height, `latest` otherwise), and the block the poller starts from is one the node
served under that tag: a failing query never makes the poller (or `getBlockNumber`, which goes through the same connector)
read another height. -/
theorem c10_poller_start_height (uf : Bool) (attempts : List TagAns) :
    (∀ t ∈ (pollerStart uf attempts).1, t = blockTag none uf false) ∧
    (∀ n, (pollerStart uf attempts).2 = some n → ∃ a ∈ attempts, a (blockTag none uf false) = .ok n) := by
  induction attempts with
  | nil => exact ⟨nofun, nofun⟩
  | cons a rest ih =>
    rw [pollerStart]
    cases hg : getBlock (a (blockTag none uf false)) false with
    | some ns =>
      refine ⟨fun t ht => List.mem_singleton.1 ht, fun n hn => ⟨a, List.mem_cons_self, ?_⟩⟩
      cases hn
      exact (getBlock_eq_some_iff.1 hg).1
    | none =>
      refine ⟨fun t ht => (List.mem_cons.1 ht).elim id (ih.1 t), fun n hn => ?_⟩
      obtain ⟨a', ha', hok⟩ := ih.2 n hn
      exact ⟨a', List.mem_cons_of_mem _ ha', hok⟩

/-- first attempt: the finalized query fails (the latest head is 105); second attempt: finalized head 101, latest 106 -/
private def startAttempts : List TagAns :=
  [fun t => if t = "finalized" then .err else .ok 105, fun t => if t = "finalized" then .ok 101 else .ok 106]

example : pollerStart cfgEth.useFinalized startAttempts = (["finalized", "finalized"], some 101) := by decide +kernel

private def ev105 : Event := { ev1 with rawBn := 105, cl := 1 }
private def p105 : Pend := mkPend cfgEth ev105 1700000105

/-- A poller that falls back to the latest block when its first finalized query fails (`pollerStartFallback`, not the code)
violates `c10_poller_start_height`: on the chain read at finalized height the first finalized query fails once; the code asks
again and starts at the finalized head 101, the variant starts at the latest head 105 with the finalized flag cleared for good -
and the watcher, which waits for zero confirmations on that chain, hands over the message logged in block 105 at head 105 while
the finalized head is 101 (at which the code keeps it pending). This is the input the check reports for such a change (start with
a failing first block query; clauses `forwarded-not-final` / `reobs-not-final`). -/
theorem c10_poller_start_fallback_witness :
    pollerStart cfgEth.useFinalized startAttempts = (["finalized", "finalized"], some 101) ∧
    pollerStartFallback cfgEth.useFinalized startAttempts = (["finalized", "latest"], some 105, false) ∧
    (processHead cfgEth false 105 (fun _ => goodRc p105) [p105]).forwarded = [p105] ∧
    (processHead cfgEth false 101 (fun _ => goodRc p105) [p105]).forwarded = [] ∧
    (processHead cfgEth false 101 (fun _ => goodRc p105) [p105]).pending = [p105] := by decide +kernel

/-! ## Re-observation while the node changes branch -/

/-- **The head that passes the depth test is never read after the receipt.** The node answers the first `k` RPC requests of a
re-observation in view `a` and the others in view `b` (any `k`: a reorg between any two consecutive requests, before the first
or after the last). Every message handed over comes from the receipt of the view the receipt request was answered in - core
contract, message-published topic, status 1 - and its block number plus confirmations is at most a head `n ≠ 0` that is the head
of the earlier view `a` or the head of that same view: never a head served only after the receipt had been read. -/
theorem c10_reobserve_across_checks (cfg : Cfg) (topic : Bytes) (k : Nat) (a b : NodeView) (m : Msg)
    (hm : m ∈ reobsForwardedAcross cfg topic k a b) :
    ∃ r t n bn l ev, (viewAt k a b 2).rc = some r ∧ (viewAt k a b 2).rcErr = false ∧ r.status = 1 ∧
      (viewAt k a b 1).head = some n ∧ (some n = a.head ∨ some n = (viewAt k a b 2).head) ∧
      r.bn = some bn ∧ some l ∈ r.logs ∧ l.addr = cfg.contract ∧ l.topics.head? = some topic ∧ l.parse = some ev ∧
      m = mkMsg cfg.chainId ev t ∧ n % U64 ≠ 0 ∧
      add64 (bn % U64) (if cfg.wait then m.cl else 0) ≤ n % U64 := by
  obtain ⟨r, t, n, bn, l, ev, hrc, herr, hst, _hbt, hn, hbn, hl, ha, htp, hp, hmk, hz, hle⟩ :=
    c10_reobserve_checks cfg topic _ _ _ _ m hm
  refine ⟨r, t, n, bn, l, ev, hrc, herr, hst, hn, ?_, hbn, hl, ha, htp, hp, hmk, hz, hle⟩
  by_cases h1 : 1 ≤ k
  · rw [viewAt_of_le h1] at hn
    exact Or.inl hn.symm
  · rw [viewAt_of_lt (Nat.lt_of_not_le h1)] at hn
    rw [viewAt_of_lt (Nat.lt_succ_of_lt (Nat.lt_of_not_le h1))]
    exact Or.inr hn.symm

private def viewDeep : NodeView := { head := some 110, rc := some receipt1, rcErr := false, bt := fun _ => some 1700000000 }
private def viewRemined : NodeView :=
  { head := some 104, rc := some { receipt1 with bh := bh2, bn := some 102 }, rcErr := false, bt := fun _ => some 1700000012 }

-- the change of branch falls between the head request and the receipt request: head 110 (old view), receipt of the new view
example : reobsForwardedAcross cfgBsc topic1 1 viewDeep viewRemined = [mkMsg 4 ev1 1700000012] ∧
          reobsForwardedAcross cfgBsc topic1 0 viewDeep viewRemined = [mkMsg 4 ev1 1700000012] ∧
          reobsForwardedAcross cfgBsc topic1 3 viewDeep viewRemined = [mkMsg 4 ev1 1700000000] := by decide +kernel

/-- **A transaction orphaned while it is being re-observed is handed over only if it was deep enough before.** If after the
change of branch the receipt lookup fails (the transaction is gone), then - wherever the change falls among the request's RPC
requests - a message is handed over only from the receipt of the earlier view and only if that view's own head had reached the
message's depth: a higher head on the new branch cannot make an orphaned message pass. -/
theorem c10_reobserve_orphaned_during_request (cfg : Cfg) (topic : Bytes) (k : Nat) (a b : NodeView) (m : Msg)
    (hb : b.rcErr = true) (hm : m ∈ reobsForwardedAcross cfg topic k a b) :
    ∃ r n bn, a.rc = some r ∧ a.rcErr = false ∧ r.status = 1 ∧ a.head = some n ∧ r.bn = some bn ∧
      add64 (bn % U64) (if cfg.wait then m.cl else 0) ≤ n % U64 := by
  obtain ⟨r, _t, n, bn, _l, _ev, hrc, herr, hst, hn, _hn', hbn, _hl, _ha, _htp, _hp, _hmk, _hz, hle⟩ :=
    c10_reobserve_across_checks cfg topic k a b m hm
  by_cases h2 : 2 ≤ k
  · rw [viewAt_of_le h2] at hrc herr
    rw [viewAt_of_le (Nat.le_of_succ_le h2)] at hn
    exact ⟨r, n, bn, hrc, herr, hst, hn, hbn, hle⟩
  · rw [viewAt_of_lt (Nat.lt_of_not_le h2), hb] at herr
    cases herr

private def viewOld : NodeView := { head := some 101, rc := some receipt1, rcErr := false, bt := fun _ => some 1700000000 }
private def viewNew : NodeView := { head := some 104, rc := none, rcErr := true, bt := fun _ => some 1700000000 }

example : reobsForwardedAcross cfgBsc topic1 3 { viewOld with head := some 103 } viewNew = [mkMsg 4 ev1 1700000000] := by decide +kernel

/-- Reading the head AFTER `MessageEventsForTransaction` (`reobsForwardedAcrossHeadLast`, not the code) violates
`c10_reobserve_orphaned_during_request`: T (block 101, cl 2) is in its block at head 101; the reorg - T orphaned, the other
branch at 104 - lands after the receipt request (k = 1) or after the block-time request (k = 2): the variant pairs the old
receipt with the new head (101 + 2 ≤ 104) and hands the orphaned message over, although there never was a moment at which a head
≥ 103 had been seen while the receipt pointed to block 101. The code hands over nothing, wherever the reorg falls. This is the
input the check reports for such a change (op `rreobs`, clause `reobs-receipt-moved`). -/
theorem c10_reobserve_head_last_witness :
    reobsForwardedAcrossHeadLast cfgBsc topic1 1 viewOld viewNew = [mkMsg 4 ev1 1700000000] ∧
    reobsForwardedAcrossHeadLast cfgBsc topic1 2 viewOld viewNew = [mkMsg 4 ev1 1700000000] ∧
    (∀ k, reobsForwardedAcross cfgBsc topic1 k viewOld viewNew = []) := by
  refine ⟨by decide +kernel, by decide +kernel, fun k => ?_⟩
  -- `reobsForwardedAcross_min`: `k` is only ever compared with the request numbers 1, 2, 3 (`viewAt`), so the result at `k` is the
  -- result at `min k 3`, and `k = 0, 1, 2, 3` (reorg before request 1, 2, 3, or after the last) are all the cases there are
  have : ∀ j ≤ 3, reobsForwardedAcross cfgBsc topic1 j viewOld viewNew = [] := by decide +kernel
  rw [← reobsForwardedAcross_min]
  exact this _ (Nat.min_le_right _ _)

end Whv.C10
