import Whv.Gen.C07
import Whv.Lemmas.Contract
import Whv.Props.C06
/-!
# C07 — quorum threshold = ⌊2n/3⌋+1 in the node and both contracts, and BFT-safe

`Whv.Gen.C07` is regenerated from `/repo` on every run (Go `CalculateQuorum`, Solidity `quorum`,
Ralph `quorumSize`).  The threshold theorems (up to `two_quorums_intersect`) are stated for **all** `n : Nat`, not for a table; the
sections after them tie the contracts' signature checks to the node's and say which stored set's size the count guard reads.
-/
namespace Whv.C07
open Whv.Gen.C07

/-- The specification's threshold (the body of `Whv.quorum`, which the processor model counts against: the two unfold to each
other). -/
def q (n : Nat) : Nat := 2 * n / 3 + 1

theorem go_quorum_eq (n : Nat) : goQuorum n = q n := by
  unfold goQuorum q; omega

theorem sol_quorum_eq (n : Nat) : solQuorum n = q n := by
  unfold solQuorum q; omega

theorem ral_quorum_eq (n : Nat) : ralQuorum n = q n := by
  unfold ralQuorum q; omega

-- which simp lemmas fire depends on the shape of the guard in the source (if / require, one or several)
set_option linter.unusedSimpArgs false in
/-- **The guard `verifyVM` applies is the threshold.** `solAcceptsCount n k` is the comparison(s) between the signature count and
the key count as they stand in `verifyVM` (a call of `quorum()` inlined by `quorum()`'s own return expression, a local holding
it, or a comparison written out in place - re-extracted on every run): it lets `k` signatures for `n` keys through exactly when
`k` reaches `floor(2n/3)+1`.  A correct `quorum()` that `verifyVM` does not use proves nothing; this does. -/
theorem sol_verifyvm_guard (n k : Nat) : solAcceptsCount n k = true ↔ q n ≤ k := by
  unfold solAcceptsCount q
  simp only [Bool.not_eq_true', Bool.and_eq_true, decide_eq_true_eq, decide_eq_false_iff_not]
  omega

/-- … so it is the count guard of the hand model of `verifyVM` (`Contract.solAccepts`: `sigs.length < quorumF keys.length`
rejects) instantiated with the translated `quorum()`. -/
theorem sol_model_guard_is_verifyvm_guard (n k : Nat) : (¬ k < solQuorum n) ↔ solAcceptsCount n k = true := by
  rw [sol_verifyvm_guard, sol_quorum_eq]; exact Nat.not_lt

/-- Non-vacuity: 2 of 3 is refused, 3 of 3 accepted; 12 of 18 refused, 13 of 18 accepted (the sizes divisible by three are
where `3k < 2n` and `k < floor(2n/3)+1` part). -/
example : solAcceptsCount 3 2 = false ∧ solAcceptsCount 3 3 = true ∧ solAcceptsCount 18 12 = false ∧ solAcceptsCount 18 13 = true := by
  decide +kernel

/-- Node and contracts agree on *acceptance*: a signature count passes one threshold iff it passes the others. -/
theorem complete_iff_accepted (n sigs : Nat) :
    (goQuorum n ≤ sigs ↔ solQuorum n ≤ sigs) ∧ (goQuorum n ≤ sigs ↔ ralQuorum n ≤ sigs) := by
  rw [go_quorum_eq, sol_quorum_eq, ral_quorum_eq]; exact ⟨Iff.rfl, Iff.rfl⟩

/-- The threshold exceeds two thirds of `n` … -/
theorem exceeds_two_thirds (n : Nat) : 2 * n < 3 * goQuorum n := by
  rw [go_quorum_eq]; unfold q; omega

/-- … and never exceeds `n` (for a non-empty set). -/
theorem at_most_n (n : Nat) (h : 0 < n) : goQuorum n ≤ n := by
  rw [go_quorum_eq]; unfold q; omega

/-- Any two quorums (sets of at least `goQuorum n` of `n` guardians; by inclusion–exclusion their
intersection has at least `a + b - n` members) share more than a third of the guardians. -/
theorem two_quorums_intersect (n a b : Nat) (ha : goQuorum n ≤ a) (hb : goQuorum n ≤ b)
    (_han : a ≤ n) (_hbn : b ≤ n) : n < 3 * (a + b - n) := by
  have := exceeds_two_thirds n; omega

/-- Non-vacuity: 13 of 19 is a quorum and two such quorums meet in ≥ 7 > 19/3 guardians. -/
example : goQuorum 19 = 13 ∧ 19 < 3 * (13 + 13 - 19) := by decide +kernel

/-! ## "complete for the node" ⇔ "accepted on chain" (signature section)

The node calls a signature list complete for a guardian set when `verifySignatures` holds and there are at least
`goQuorum` signatures (C01: that is what it stores and broadcasts). The contracts' checks are modelled in
`Whv/Model/Contract.lean`; their quorum formulas are the translated `solQuorum` / `ralQuorum`. -/

open Whv Whv.Contract

/-- **Complete for the node ⇒ accepted by both contracts.** A signature list that the node's verification accepts for a
non-empty guardian set and that reaches the node's quorum passes the Ralph and the Solidity signature checks — for every
guardian list (repeated keys included) and every recovery oracle. -/
theorem node_complete_accepted_on_chain (recover : Bytes → Option Addr) (sigs : List Sig) (keys : List Addr)
    (hne : keys.length ≠ 0) (hv : verifySignatures recover sigs keys = true) (hq : goQuorum keys.length ≤ sigs.length) :
    ralAccepts ralQuorum recover sigs keys = true ∧ solAccepts solQuorum recover sigs keys = true := by
  have hV := (C06.verify_iff _ _ _).1 hv
  rw [go_quorum_eq] at hq
  -- `solAccepts_eq` makes the Solidity conjunct a second `ralAccepts`, at `solQuorum`
  rw [solAccepts_eq, ralAccepts_iff, ralAccepts_iff, ral_quorum_eq, sol_quorum_eq]
  exact ⟨⟨hne, hq, hV.1, hV.2.1⟩, hne, hq, hV.1, hV.2.1⟩

/-- **Accepted on chain ⇒ complete for the node** (guardian sets with distinct keys): whatever either contract accepts, the
node's verification accepts too and it reaches the node's quorum — so an incomplete VAA is not accepted on chain. -/
theorem accepted_on_chain_is_node_complete (recover : Bytes → Option Addr) (sigs : List Sig) (keys : List Addr)
    (hnd : keys.Nodup)
    (h : ralAccepts ralQuorum recover sigs keys = true ∨ solAccepts solQuorum recover sigs keys = true) :
    verifySignatures recover sigs keys = true ∧ goQuorum keys.length ≤ sigs.length ∧ keys.length ≠ 0 := by
  rw [solAccepts_eq, ralAccepts_iff, ralAccepts_iff, ral_quorum_eq, sol_quorum_eq, or_self] at h
  obtain ⟨hne, hq, hok, hp⟩ := h
  exact ⟨(C06.verify_iff _ _ _).2 ⟨hok, hp, C06.nodup_implied _ _ _ hnd hok hp⟩, by rwa [go_quorum_eq], hne⟩

/-- The two contract loops have, in the sources, the shape the model gives them (textual facts, re-extracted every run). -/
theorem contract_loops_as_modelled : solLoopShape = true ∧ ralLoopShape = true := ⟨rfl, rfl⟩

/-- The Solidity `quorum()` computes in full-width `uint` (no narrower parameter type or call-site cast that would make the
checked multiplication revert for large sets). -/
theorem sol_quorum_full_width : solQuorumWidth = 256 := rfl

/-! ## "for the guardian set of size n": the n is the size of the set the VAA names -/

/-- **`verifyVM`'s count guard reads the key count of the set the VAA names** - the set stored under the VAA's own
`guardianSetIndex`, not the current one (fact re-extracted on every run: every `<set>.keys.length` operand of the guard resolved
through `verifyVM`'s straight-line locals and the two `Getters.sol` getters). -/
theorem sol_guard_reads_named_set : solGuardSet = "named" := rfl

/-- **`parseAndVerifyVAA`'s `guardianSize` is the size of the set the VAA names** (`getGuardiansInfo` of bytes 1..5 of the VAA,
resolved through the function's `let`s; `getGuardiansInfo` hands out slot `i` for `guardianSetIndexes[i]`). -/
theorem ral_guard_reads_named_set : ralGuardSet = "named" := rfl

/-- … so on the contracts' stored sets - whatever the current set is, in particular after a rotation that changed the size - a
VAA is judged exactly as `solAccepts` / `ralAccepts` judge it against the set it names: the theorems above
(`node_complete_accepted_on_chain`, `accepted_on_chain_is_node_complete`) speak about what the contracts do. -/
theorem verify_on_stored_sets_judges_named_set (recover : Bytes → Option Addr) (st : ChainSets) (i : Nat) (sigs : List Sig) :
    solVerifyVM solGuardSet solQuorum recover st i sigs = solAccepts solQuorum recover sigs (st.sets i) ∧
    ralVerifyVAA ralGuardSet ralQuorum recover st i sigs = ralAccepts ralQuorum recover sigs (st.sets i) := by
  rw [sol_guard_reads_named_set, ral_guard_reads_named_set]
  exact ⟨rfl, rfl⟩

/-- Why the fact matters (the model with the guard reading the CURRENT set's size): after a rotation from four guardians to one,
a VAA naming the four-key set with ONE valid signature passes (`q 4 = 3`); after a rotation from one guardian to four, the
complete one-signature VAA naming the one-key set is refused. -/
theorem guard_on_current_set_witness :
    let rec1 : Bytes → Option Addr := fun s => match s with | [10] => some [1] | _ => none
    let shrunk : ChainSets := ⟨fun i => if i = 0 then [[1], [2], [3], [4]] else if i = 1 then [[9]] else [], 1⟩
    let grown : ChainSets := ⟨fun i => if i = 0 then [[1]] else if i = 1 then [[1], [2], [3], [4]] else [], 1⟩
    (solVerifyVM "current" solQuorum rec1 shrunk 0 [⟨0, [10]⟩] = true ∧ ralVerifyVAA "current" ralQuorum rec1 shrunk 0 [⟨0, [10]⟩] = true ∧
      [(⟨0, [10]⟩ : Sig)].length < q (shrunk.sets 0).length) ∧
    (solVerifyVM "current" solQuorum rec1 grown 0 [⟨0, [10]⟩] = false ∧ ralVerifyVAA "current" ralQuorum rec1 grown 0 [⟨0, [10]⟩] = false ∧
      verifySignatures rec1 [⟨0, [10]⟩] (grown.sets 0) = true ∧ goQuorum (grown.sets 0).length ≤ [(⟨0, [10]⟩ : Sig)].length) := by
  decide +kernel

/-- Non-vacuity of `verify_on_stored_sets_judges_named_set`: the same two states, guard on the named set - the one-signature VAA
is refused for the four-key set and accepted for the one-key set, whatever the current set. -/
example :
    let rec1 : Bytes → Option Addr := fun s => match s with | [10] => some [1] | _ => none
    let shrunk : ChainSets := ⟨fun i => if i = 0 then [[1], [2], [3], [4]] else if i = 1 then [[9]] else [], 1⟩
    let grown : ChainSets := ⟨fun i => if i = 0 then [[1]] else if i = 1 then [[1], [2], [3], [4]] else [], 1⟩
    solVerifyVM solGuardSet solQuorum rec1 shrunk 0 [⟨0, [10]⟩] = false ∧ ralVerifyVAA ralGuardSet ralQuorum rec1 shrunk 0 [⟨0, [10]⟩] = false ∧
    solVerifyVM solGuardSet solQuorum rec1 grown 0 [⟨0, [10]⟩] = true ∧ ralVerifyVAA ralGuardSet ralQuorum rec1 grown 0 [⟨0, [10]⟩] = true := by
  decide +kernel

/-- Non-vacuity: 3 of 4 guardians, signatures at indices 0, 2, 3 — complete for the node and accepted by both contracts. -/
example :
    let rec4 : Bytes → Option Addr := fun s => match s with | [10] => some [1] | [30] => some [3] | [40] => some [4] | _ => none
    verifySignatures rec4 [⟨0, [10]⟩, ⟨2, [30]⟩, ⟨3, [40]⟩] [[1], [2], [3], [4]] = true ∧
    ralAccepts ralQuorum rec4 [⟨0, [10]⟩, ⟨2, [30]⟩, ⟨3, [40]⟩] [[1], [2], [3], [4]] = true ∧
    solAccepts solQuorum rec4 [⟨0, [10]⟩, ⟨2, [30]⟩, ⟨3, [40]⟩] [[1], [2], [3], [4]] = true ∧
    ralAccepts ralQuorum rec4 [⟨0, [10]⟩, ⟨2, [30]⟩] [[1], [2], [3], [4]] = false := by decide +kernel

end Whv.C07
