import Whv.Lemmas.Verify
import Whv.Lemmas.Basic
import Whv.Driver.Vaa
import Whv.Props.C05
/-!
# C06 — signature verification accepts exactly valid, ordered, in-set signatures

Model: `Whv.verifySignatures` (`Whv/Model/Verify.lean`) follows `(*VAA).VerifySignatures` statement by
statement; `recover` is the ecrecover-to-address oracle for the VAA's own digest (a parameter).
The Spec `Valid` mentions no loop state.
-/
namespace Whv.C06
open Whv

/-- What the statement says verification must accept, and nothing else:
every signature recovers to the address at the index it claims, every index is inside the list,
indices strictly increase, and — "so that no guardian is counted twice" — no address is recovered twice. -/
def Valid (recover : Bytes → Option Addr) (sigs : List Sig) (addrs : List Addr) : Prop :=
  (∀ s ∈ sigs, s.idx < addrs.length ∧ recover s.sig = addrs[s.idx]?) ∧
  sigs.Pairwise (fun a b => a.idx < b.idx) ∧
  sigs.Pairwise (fun a b => recover a.sig ≠ recover b.sig)

/-- **Main theorem.** For guardian lists and signature lists of *any* length, verification succeeds
iff the signature list is `Valid`. -/
theorem verify_iff (recover : Bytes → Option Addr) (sigs : List Sig) (addrs : List Addr) :
    verifySignatures recover sigs addrs = true ↔ Valid recover sigs addrs := by
  have key : verifyLoop recover addrs sigs (-1) [] = true ↔ Valid recover sigs addrs := by
    -- from the initial state `(-1, [])` the clauses about `last` and `seen` hold of every signature
    simp only [verifyLoop_iff, Int.neg_one_lt_natCast, List.not_mem_nil, false_imp_iff, implies_true, and_true, Valid]
  rw [verifySignatures, Bool.ite_then_false, key]
  -- the length guard is implied: ascending indices below `addrs.length` are at most that many
  exact and_iff_right_of_imp fun h =>
    Nat.not_lt.2 (length_add_le_of_ascending sigs 0 (Nat.zero_le _) (fun s hs => ⟨Nat.zero_le _, (h.1 s hs).1⟩) h.2.1)

/-- For guardian lists without repeated addresses the third conjunct is implied by the first two —
which is why the statement does not list it separately. -/
theorem nodup_implied (recover : Bytes → Option Addr) (sigs : List Sig) (addrs : List Addr)
    (hnd : addrs.Nodup)
    (h1 : ∀ s ∈ sigs, s.idx < addrs.length ∧ recover s.sig = addrs[s.idx]?)
    (h2 : sigs.Pairwise (fun a b => a.idx < b.idx)) :
    sigs.Pairwise (fun a b => recover a.sig ≠ recover b.sig) := by
  refine h2.imp_of_mem fun {s t} hs ht hlt e => ?_
  rw [(h1 s hs).2, (h1 t ht).2] at e
  exact Nat.ne_of_lt hlt ((List.getElem?_inj (h1 s hs).1 hnd).1 e)

private theorem verify_false_iff {recover : Bytes → Option Addr} {sigs : List Sig} {addrs : List Addr} :
    verifySignatures recover sigs addrs = false ↔ ¬ Valid recover sigs addrs := by
  rw [← verify_iff, Bool.not_eq_true]

private theorem idx_lt_of_accepted {recover : Bytes → Option Addr} {pre mid post : List Sig} {a b : Sig} {addrs : List Addr}
    (h : verifySignatures recover (pre ++ a :: (mid ++ b :: post)) addrs = true) : a.idx < b.idx := by
  have asc := ((verify_iff _ _ _).1 h).2.1
  -- in an ascending list `a` is below everything after it
  rw [List.pairwise_append, List.pairwise_cons] at asc
  obtain ⟨-, ⟨ha, -⟩, -⟩ := asc
  exact ha b (List.mem_append_right _ List.mem_cons_self)

/-- Changing the body changes the digest, i.e. the `recover` oracle: validity is about *this* digest only.
Stated per signature — if under the other digest some signature no longer recovers to its claimed key, verification fails. -/
theorem other_digest_fails (recover' : Bytes → Option Addr) (sigs : List Sig) (addrs : List Addr)
    (s : Sig) (hs : s ∈ sigs) (hbad : recover' s.sig ≠ addrs[s.idx]?) :
    verifySignatures recover' sigs addrs = false :=
  verify_false_iff.2 fun h => hbad (h.1 s hs).2

/-- A signer outside the list (recovered address is not the one at the claimed index) makes it fail. -/
theorem outsider_fails (recover : Bytes → Option Addr) (sigs : List Sig) (addrs : List Addr)
    (s : Sig) (hs : s ∈ sigs) (a : Addr) (hr : recover s.sig = some a) (hout : a ∉ addrs) :
    verifySignatures recover sigs addrs = false :=
  verify_false_iff.2 fun h => hout (List.mem_of_getElem? (hr ▸ (h.1 s hs).2).symm)

/-- Duplicating a signature (same index twice, anywhere) makes it fail. -/
theorem duplicate_fails (recover : Bytes → Option Addr) (pre mid post : List Sig) (s : Sig) (addrs : List Addr) :
    verifySignatures recover (pre ++ s :: mid ++ s :: post) addrs = false :=
  Bool.eq_false_iff.2 fun h =>
    Nat.lt_irrefl _ (idx_lt_of_accepted (by rwa [List.append_assoc, List.cons_append] at h))

/-- Swapping two adjacent signatures of an accepted list makes it fail. -/
theorem swap_fails (recover : Bytes → Option Addr) (pre post : List Sig) (a b : Sig) (addrs : List Addr)
    (h : verifySignatures recover (pre ++ a :: b :: post) addrs = true) :
    verifySignatures recover (pre ++ b :: a :: post) addrs = false :=
  Bool.eq_false_iff.2 fun h' => Nat.lt_asymm (idx_lt_of_accepted (mid := []) h) (idx_lt_of_accepted (mid := []) h')

/-- An index outside the guardian list makes it fail (and, the model being total, cannot panic). -/
theorem out_of_range_fails (recover : Bytes → Option Addr) (sigs : List Sig) (addrs : List Addr)
    (s : Sig) (hs : s ∈ sigs) (h : addrs.length ≤ s.idx) : verifySignatures recover sigs addrs = false :=
  verify_false_iff.2 fun hv => Nat.not_lt.2 h (hv.1 s hs).1

/-- Every accepted list has at most as many signatures as there are guardians, hence counting
signatures counts distinct guardians (used by C01). -/
theorem accepted_length_le (recover : Bytes → Option Addr) (sigs : List Sig) (addrs : List Addr)
    (h : verifySignatures recover sigs addrs = true) : sigs.length ≤ addrs.length := by
  rw [verifySignatures, Bool.ite_then_false] at h
  exact Nat.not_lt.1 h.1

private theorem pairwiseB_iff (r : Sig → Sig → Bool) (l : List Sig) :
    Whv.Driver.VaaFam.validB.pairwiseB r l = true ↔ l.Pairwise (fun a b => r a b = true) := by
  induction l with
  | nil => simp [Whv.Driver.VaaFam.validB.pairwiseB]
  | cons a l ih =>
    simp only [Whv.Driver.VaaFam.validB.pairwiseB, Bool.and_eq_true, List.all_eq_true, ih, List.pairwise_cons]

/-- The Boolean Spec the driver evaluates on the implementation's results (`validB`, compiled code) is exactly `Valid`. -/
theorem validB_iff (recover : Bytes → Option Addr) (sigs : List Sig) (addrs : List Addr) :
    Whv.Driver.VaaFam.validB recover sigs addrs = true ↔ Valid recover sigs addrs := by
  simp only [Whv.Driver.VaaFam.validB, Valid, Bool.and_eq_true, List.all_eq_true, pairwiseB_iff, decide_eq_true_eq, beq_iff_eq,
    bne_iff_ne, and_assoc]

/-- Non-vacuity: a 3-guardian list, signatures by guardians 0 and 2 — accepted; re-indexed — rejected. -/
def rec3 : Bytes → Option Addr := fun s => match s with
  | [10] => some [0xA] | [12] => some [0xC] | _ => none
example : verifySignatures rec3 [⟨0, [10]⟩, ⟨2, [12]⟩] [[0xA], [0xB], [0xC]] = true := by decide +kernel
example : verifySignatures rec3 [⟨0, [10]⟩, ⟨1, [12]⟩] [[0xA], [0xB], [0xC]] = false := by decide +kernel

/-- The Spec's reading of the wire (`Whv.Driver.VaaFam.wireSigs`, used by the driver on `wver` lines) is the signature list of the encoded VAA,
in the order of the records. -/
theorem wireSigs_marshal (v : Vaa) (hn : v.sigs.length ≤ 255) (hs : ∀ s ∈ v.sigs, s.WF) :
    Whv.Driver.VaaFam.wireSigs (marshal v) = some v.sigs := by
  simp only [Whv.Driver.VaaFam.wireSigs, takeN_five_marshal, takeN_be, unbe_be1 (Nat.lt_succ_of_le hn), readSigs_sigsBytes hs,
    Option.map_some]

/-- … and of whatever the decoder accepts: the decoded list is the wire's list, record for record, in wire order. -/
theorem wireSigs_of_unmarshal (wire : Bytes) (v : Vaa) (h : unmarshal wire = some v) : Whv.Driver.VaaFam.wireSigs wire = some v.sigs := by
  obtain ⟨e, -, -, hn, hs, -⟩ := Whv.C05.encode_decode wire v h
  rw [← e]; exact wireSigs_marshal v hn hs

/-- The wire path (`Unmarshal` then `VerifySignatures`) accepts exactly the decodable strings whose signature records, in wire
order, are `Valid`. The Spec reads the records off the wire itself (`wireSigs`), not from the decoder's result, so a decoder that
re-orders or drops records is caught. -/
theorem decodeVerify_iff (recover : Bytes → Option Addr) (wire : Bytes) (addrs : List Addr) :
    Whv.Driver.VaaFam.decodeVerify recover wire addrs = true ↔
      ∃ v sigs, unmarshal wire = some v ∧ Whv.Driver.VaaFam.wireSigs wire = some sigs ∧ Valid recover sigs addrs := by
  unfold Whv.Driver.VaaFam.decodeVerify
  cases h : unmarshal wire with
  | none => simp
  | some v =>
    simp only [verify_iff, wireSigs_of_unmarshal wire v h]
    exact ⟨fun hv => ⟨v, v.sigs, rfl, rfl, hv⟩, fun ⟨_, _, _, e, hv⟩ => by cases e; exact hv⟩

/-- Serialized with two neighbouring signature records out of order (equal or descending indices), a VAA is rejected on the wire
path even when every signature is individually valid: the decoder must not re-order what it reads. -/
theorem wire_out_of_order_rejected (recover : Bytes → Option Addr) (v : Vaa) (h : v.WF) (addrs : List Addr)
    (pre post : List Sig) (a b : Sig) (e : v.sigs = pre ++ a :: b :: post) (hab : b.idx ≤ a.idx) :
    Whv.Driver.VaaFam.decodeVerify recover (marshal v) addrs = false := by
  simp only [Whv.Driver.VaaFam.decodeVerify, Whv.C05.decode_encode v h, e]
  exact Bool.eq_false_iff.2 fun hv => Nat.not_lt.2 hab (idx_lt_of_accepted (mid := []) hv)

/-- A `Valid` signature list survives serialization: the wire path accepts it. -/
theorem wire_valid_accepted (recover : Bytes → Option Addr) (v : Vaa) (h : v.WF) (addrs : List Addr)
    (hv : Valid recover v.sigs addrs) : Whv.Driver.VaaFam.decodeVerify recover (marshal v) addrs = true := by
  unfold Whv.Driver.VaaFam.decodeVerify
  rw [Whv.C05.decode_encode v h]
  exact (verify_iff _ _ _).2 hv

/-- Guardian lists with repeated addresses: a signature is accepted at EVERY position that holds the address it recovers to —
the first as well as the last. -/
theorem claimed_position_accepted (recover : Bytes → Option Addr) (addrs : List Addr) (i : Nat) (sg : Bytes) (a : Addr)
    (hr : recover sg = some a) (hi : addrs[i]? = some a) :
    verifySignatures recover [⟨i, sg⟩] addrs = true :=
  (verify_iff _ _ _).2 ⟨by simpa using ⟨(List.getElem?_eq_some_iff.1 hi).1, hr.trans hi.symm⟩,
    List.pairwise_singleton .., List.pairwise_singleton ..⟩

/-- … but claiming two positions of one address counts that guardian twice and is rejected. -/
theorem repeated_address_twice_rejected (recover : Bytes → Option Addr) (addrs : List Addr) (i j : Nat) (s₁ s₂ : Bytes)
    (h : recover s₁ = recover s₂) : verifySignatures recover [⟨i, s₁⟩, ⟨j, s₂⟩] addrs = false :=
  verify_false_iff.2 fun hv => List.rel_of_pairwise_cons hv.2.2 List.mem_cons_self h

def recA : Bytes → Option Addr := fun s => match s with
  | [10] => some [0xA] | [11] => some [0xB] | _ => none
example : verifySignatures recA [⟨0, [10]⟩] [[0xA], [0xB], [0xA]] = true := claimed_position_accepted recA _ 0 [10] [0xA] rfl rfl
example : verifySignatures recA [⟨2, [10]⟩] [[0xA], [0xB], [0xA]] = true := claimed_position_accepted recA _ 2 [10] [0xA] rfl rfl
example : verifySignatures recA [⟨0, [10]⟩, ⟨1, [11]⟩] [[0xA], [0xB], [0xA]] = true := by decide +kernel
example : verifySignatures recA [⟨0, [10]⟩, ⟨2, [10]⟩] [[0xA], [0xB], [0xA]] = false := repeated_address_twice_rejected recA _ 0 2 [10] [10] rfl

private def ValidP (l : List (Nat × Option Addr)) (addrs : List Addr) : Prop :=
  (∀ p ∈ l, p.1 < addrs.length ∧ p.2 = addrs[p.1]?) ∧
  l.Pairwise (fun a b => a.1 < b.1) ∧ l.Pairwise (fun a b => a.2 ≠ b.2)

private theorem valid_iff_map (recover : Bytes → Option Addr) (sigs : List Sig) (addrs : List Addr) :
    Valid recover sigs addrs ↔ ValidP (sigs.map fun s => (s.idx, recover s.sig)) addrs := by
  simp only [Valid, ValidP, List.forall_mem_map, List.pairwise_map]

/-- Verification looks at a signature only through the index it claims and the address it recovers to: two signature lists that
agree on those, record for record, get the same verdict — whatever the 65 bytes are (in particular `(r, s, v)` and the second
encoding `(r, N − s, v ⊕ 1)` of the same ECDSA signature, which the recovery oracle maps to the same address). -/
theorem encoding_irrelevant (recover : Bytes → Option Addr) (sigs sigs' : List Sig) (addrs : List Addr)
    (h : sigs.map (fun s => (s.idx, recover s.sig)) = sigs'.map (fun s => (s.idx, recover s.sig))) :
    verifySignatures recover sigs addrs = verifySignatures recover sigs' addrs := by
  apply Bool.eq_iff_iff.mpr
  rw [verify_iff, verify_iff, valid_iff_map, valid_iff_map, h]

/-- Replacing the bytes of one signature, anywhere in the list, by other bytes that recover to the same address changes nothing:
an accepted list stays accepted (and a rejected one rejected). -/
theorem same_signer_other_bytes (recover : Bytes → Option Addr) (pre post : List Sig) (i : Nat) (sg sg' : Bytes) (addrs : List Addr)
    (h : recover sg = recover sg') :
    verifySignatures recover (pre ++ ⟨i, sg⟩ :: post) addrs = verifySignatures recover (pre ++ ⟨i, sg'⟩ :: post) addrs :=
  encoding_irrelevant recover _ _ addrs (by simp [h])

/-- … and so does replacing all of them. -/
theorem same_signers_other_bytes (recover : Bytes → Option Addr) (sigs : List Sig) (tw : Bytes → Bytes) (addrs : List Addr)
    (h : ∀ s ∈ sigs, recover (tw s.sig) = recover s.sig) :
    verifySignatures recover (sigs.map fun s => ⟨s.idx, tw s.sig⟩) addrs = verifySignatures recover sigs addrs := by
  apply encoding_irrelevant
  rw [List.map_map]
  apply List.map_congr_left
  intro s hs
  simp [h s hs]

def recT : Bytes → Option Addr := fun s => match s with
  | [10] => some [0xA] | [20] => some [0xA] | [12] => some [0xC] | [22] => some [0xC] | _ => none
example : verifySignatures recT [⟨0, [20]⟩, ⟨2, [12]⟩] [[0xA], [0xB], [0xC]] = true :=
  (same_signer_other_bytes recT [] [⟨2, [12]⟩] 0 [10] [20] _ rfl).symm.trans (by decide +kernel)
example : verifySignatures recT (([⟨0, [10]⟩, ⟨2, [12]⟩] : List Sig).map fun s => ⟨s.idx, s.sig.map (· + 10)⟩) [[0xA], [0xB], [0xC]] = true :=
  (same_signers_other_bytes recT [⟨0, [10]⟩, ⟨2, [12]⟩] (fun b => b.map (· + 10)) _ (by decide +kernel)).trans (by decide +kernel)
example : verifySignatures recT [⟨0, [10]⟩, ⟨1, [20]⟩] [[0xA], [0xA], [0xC]] = false :=
  repeated_address_twice_rejected recT _ 0 1 [10] [20] rfl

end Whv.C06
