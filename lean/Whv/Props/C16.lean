import Whv.Lemmas.Crash
/-!
# C16 — acknowledged VAA writes survive a crash of the node (contract level; the property itself is checked by fault enumeration)

The theorems are about the crash-contract model `Whv/Model/Crash.lean` (durable log; put appends then acknowledges; a crash
loses only un-acknowledged newest entries; reopen replays), for EVERY sequence of put / ack / crash / reopen events:
acknowledged entries survive, lookups return only bytes that were stored under that key, and the acceptance function the
driver applies to the kill/reopen observations (`acceptKey`) accepts every behaviour of the model and means what the
statement says. That badger and the kernel implement this contract under SIGKILL is NOT proved: it is what
`checks/c16.py` enumerates faults for.
-/
namespace Whv.C16
open Whv Whv.Crash

/-- After ANY sequence of put / ack / crash / reopen events, every acknowledged put is still in the durable log. -/
theorem acked_survive (evs : List Ev) (a : Entry) (ha : a ∈ (exec {} evs).atts) (hk : a.acked = true) :
    a ∈ (exec {} evs).log :=
  (inv_exec evs inv_init).1.mem_of_acked a ha hk

/-- Once acknowledged, always there: whatever happens later (more puts, any number of crashes and reopens), the entry stays durable. -/
theorem acked_survive_forever (pre post : List Ev) (a : Entry) (ha : a ∈ (exec {} pre).atts) (hk : a.acked = true) :
    a ∈ (exec {} (pre ++ post)).log := by
  apply acked_survive _ a _ hk
  rw [exec_append]
  exact acked_att_exec post ha hk

/-- A lookup after any event sequence returns only bytes that a put stored under that very key. -/
theorem lookup_exact (evs : List Ev) (k : Nat) (b : Bytes) (h : lookup (exec {} evs).log k = some b) : Ev.put k b ∈ evs := by
  obtain ⟨e, he, rfl, rfl⟩ := exists_mem_of_lookup_eq_some h
  rcases att_origin_exec evs {} e ((inv_exec evs inv_init).1.sublist.subset he) with ⟨a', ha', _⟩ | h
  · cases ha'
  · exact h

/-- Every behaviour of the contract model is accepted by the judge the driver applies to real kill/reopen observations
(so a rejection means the implementation left the contract, not that the judge is too strict). -/
theorem accept_sound (evs : List Ev) (k : Nat) :
    acceptKey (exec {} evs).atts k (lookup (exec {} evs).log k) = true :=
  (inv_exec evs inv_init).1.acceptKey_lookup k

/-- What acceptance of "not found" means: no put under that key was ever acknowledged. -/
theorem accept_none_meaning (atts : List Entry) (k : Nat) (h : acceptKey atts k none = true) :
    ∀ a ∈ atts, a.key = k → a.acked = false := by
  revert h
  -- the induction principle wants the answer as a variable: with the literal in place its equation is lost
  generalize hr : (none : Option Bytes) = r
  fun_induction acceptKey atts k r with
  | case1 => exact fun _ => nofun  -- no attempt left
  | case2 e t k r hek ih =>  -- an attempt of another key
    exact fun h => List.forall_mem_cons.2 ⟨fun hk => absurd hk hek, ih hr h⟩
  | case3 => cases hr  -- the answer is this attempt's value
  | case4 => nofun  -- an acknowledged attempt with another value
  | case5 e t k r _ _ hacc ih =>  -- an un-acknowledged attempt with another value
    exact fun h => List.forall_mem_cons.2 ⟨fun _ => Bool.eq_false_iff.2 hacc, ih hr h⟩

/-- What acceptance of returned bytes means: they are the bytes of a put under that key, and no newer put under the key was acknowledged. -/
theorem accept_some_meaning (atts : List Entry) (k : Nat) (b : Bytes) (h : acceptKey atts k (some b) = true) :
    ∃ newer a older, atts = newer ++ a :: older ∧ a.key = k ∧ a.val = b ∧ ∀ x ∈ newer, x.key = k → x.acked = false := by
  revert h
  generalize hr : some b = r
  fun_induction acceptKey atts k r with
  | case1 => cases hr; nofun  -- no attempt left
  | case2 e t k r hek ih =>  -- an attempt of another key
    intro h
    obtain ⟨n, a, o, e1, e2, e3, e4⟩ := ih hr h
    exact ⟨e :: n, a, o, by rw [e1]; rfl, e2, e3, List.forall_mem_cons.2 ⟨fun hk => absurd hk hek, e4⟩⟩
  | case3 e t k hek =>  -- the answer is this attempt's value
    exact fun _ => ⟨[], e, t, rfl, Decidable.not_not.1 hek, (Option.some.inj hr).symm, nofun⟩
  | case4 => nofun  -- an acknowledged attempt with another value
  | case5 e t k r hek _ hacc ih =>  -- an un-acknowledged attempt with another value
    intro h
    obtain ⟨n, a, o, e1, e2, e3, e4⟩ := ih hr h
    exact ⟨e :: n, a, o, by rw [e1]; rfl, e2, e3, List.forall_mem_cons.2 ⟨fun _ => Bool.eq_false_iff.2 hacc, e4⟩⟩

/-- If the newest put under a key was acknowledged, only its exact bytes are an acceptable answer ("returned intact"). -/
theorem accept_newest_acked (newer older : List Entry) (a : Entry) (r : Option Bytes) (hk : a.acked = true)
    (hn : ∀ x ∈ newer, x.key ≠ a.key) (h : acceptKey (newer ++ a :: older) a.key r = true) : r = some a.val := by
  induction newer with
  | nil =>
    rw [List.nil_append, acceptKey, if_neg (fun h => h rfl), if_pos hk] at h
    exact Decidable.by_contra fun hr => by rw [if_neg hr] at h; cases h
  | cons e t ih =>
    rw [List.cons_append, acceptKey, if_pos (hn e (List.mem_cons_self ..))] at h
    exact ih (fun x hx => hn x (List.mem_cons_of_mem _ hx)) h

/-- In the model: when the newest put under a key is acknowledged, every later lookup (across crashes and reopens that
follow without another put to that key) returns exactly its bytes. -/
theorem lookup_newest_acked (evs : List Ev) (newer older : List Entry) (a : Entry) (hs : (exec {} evs).atts = newer ++ a :: older)
    (hk : a.acked = true) (hn : ∀ x ∈ newer, x.key ≠ a.key) : lookup (exec {} evs).log a.key = some a.val := by
  have h := accept_sound evs a.key
  rw [hs] at h
  exact accept_newest_acked newer older a _ hk hn h

/-- The judge only looks at the attempts of the key in question (the driver keeps one attempt list per key). -/
theorem acceptKey_filter (atts : List Entry) (k : Nat) (r : Option Bytes) :
    acceptKey (atts.filter (·.key = k)) k r = acceptKey atts k r := by
  induction atts with
  | nil => rfl
  | cons e t ih =>
    by_cases hk : e.key = k
    · rw [List.filter_cons_of_pos (by simpa using hk), acceptKey, acceptKey, ih]
    · rw [List.filter_cons_of_neg (by simpa using hk), ih, acceptKey, if_pos hk]

/-! ## "the store always reopens" — whatever was stored

The contract never looks into a value: a stored VAA is a byte string (`StoreSignedVAA` writes what `Marshal` produced, also when the
decoder would reject it — an empty payload, a version other than 1).  Reopening therefore cannot depend on the contents. -/

/-- After ANY history a reopen brings the store up, with the durable log (hence every lookup) as the crash left it. -/
theorem reopen_always (evs : List Ev) :
    (exec {} (evs ++ [.reopen])).up = true ∧ (exec {} (evs ++ [.reopen])).log = (exec {} evs).log ∧
    ∀ k, lookup (exec {} (evs ++ [.reopen])).log k = lookup (exec {} evs).log k := by
  rw [exec_append]
  exact ⟨rfl, rfl, fun _ => rfl⟩

/-- An acknowledged value of any shape — here the empty byte string, which no decoder accepts — survives kill and reopen like any other. -/
example : let evs := [Ev.put 7 [], .ack, .put 8 [1], .crash 3]
    (exec {} (evs ++ [.reopen])).up = true ∧ lookup (exec {} (evs ++ [.reopen])).log 7 = some [] := by decide
example : (exec {} ([Ev.put 7 [], .ack, .crash 1] ++ [.reopen])).up = true := (reopen_always _).1

/-! ## non-vacuity: a put is acknowledged, a second one to the same key is in flight when the node is killed -/

private def tr (cut : Nat) : List Ev := [.put 1 [10], .ack, .put 2 [20], .ack, .put 1 [11], .crash cut, .reopen]

example : lookup (exec {} (tr 5)).log 1 = some [10] := by decide     -- in-flight overwrite lost: the acknowledged bytes come back
example : lookup (exec {} (tr 0)).log 1 = some [11] := by decide     -- in-flight overwrite survived: also fine
example : lookup (exec {} (tr 5)).log 2 = some [20] := by decide     -- however much the crash wants to cut
example : (⟨2, [20], true⟩ : Entry) ∈ (exec {} (tr 5)).atts := by decide
example : acceptKey (exec {} (tr 5)).atts 1 none = false := by decide          -- losing the acknowledged put is rejected
example : acceptKey (exec {} (tr 5)).atts 2 (some [21]) = false := by decide   -- foreign bytes are rejected
example : acceptKey (exec {} (tr 5)).atts 3 none = true := by decide

end Whv.C16
