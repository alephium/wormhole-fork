import Whv.Lemmas.Gossip
import Whv.Props.C02
/-!
# C03 — gossip not signed by a current guardian cannot change node state
# (the two p2p verifiers, the heartbeat table with its per-guardian cap, domain separation)

Model: `Whv.Gossip` (`processHeartbeat`, `processObsReq`, `setHeartbeat`, `cleanup`, node histories `run`).
The digest function `H`, signature recovery and the protobuf decoders are arbitrary parameters (`Oracles`) in every
theorem: nothing is assumed about Keccak or secp256k1.  The constants are an arbitrary `Cfg` wherever possible;
the theorems that speak about the concrete prefixes and the 34-byte floor are about `Cfg.gen`, i.e. about
`Whv.Gen.C03`, which is re-extracted from the source on every run.

(The observation gate of `processor.handleObservation`, third part of the statement, is at the end of the file, on the
processor model `Whv.Proc`.)

The single-call heartbeat theorems are read off `Gossip.processHeartbeat_cases`; the theorems about the table over a
history (`c03_table_cap`, `entry_only_filed` and its two weakenings) rest on `Gossip.step_table` (what one operation can do
to the table, and for which address).
-/
namespace Whv.C03
open Whv Whv.Gossip

/-- **Heartbeats.**  With verification enabled a gossiped heartbeat is accepted — and changes the table — exactly when
the envelope address (last 20 bytes / left-padded) is a key of the guardian set in force, the signed pre-image
`prefix ++ body` passes the length floor, the signature over `H (prefix ++ body)` recovers to THAT address, the body
decodes, and the guardian's table entry has room; the new table then is the old one with that one entry set. -/
theorem c03_hb_accept_iff (o : Oracles) (cfg : Cfg) (gs : List Addr) (t t' : Table) (src : Peer) (s : Signed) (h : Hb) :
    processHeartbeat o cfg false gs t src s = (t', .ok h) ↔
      bytesToAddress s.addr ∈ gs ∧
      cfg.hbTooShort cfg.hbPrefix.length s.body.length = false ∧
      o.recover (o.H (cfg.hbPrefix ++ s.body)) s.sig = some (bytesToAddress s.addr) ∧
      o.decodeHb s.body = some h ∧
      hasRoom cfg.cap t (bytesToAddress s.addr) = true ∧
      t' = stored t (bytesToAddress s.addr) src h := by
  constructor
  · intro hacc
    obtain ⟨e, he⟩ | ⟨signer, h', hv, hf, hr, hd, hroom, hok⟩ := processHeartbeat_cases o cfg false gs t src s
    · rw [he] at hacc
      cases hacc
    · obtain ⟨hmem, rfl⟩ := hv rfl
      rw [hok] at hacc
      cases hacc
      exact ⟨hmem, hf, hr, hd, hroom, rfl⟩
  · rintro ⟨hmem, hf, hr, hd, hroom, rfl⟩
    simp [processHeartbeat, envelopeKey_of_mem false hmem, hf, hr, hd, setHeartbeat_eq, hroom]

/-- **Observation requests.**  Accepted exactly when the envelope address is a key of the set, the pre-image passes the
floor, the signature over `H (prefix ++ body)` recovers to that address, and the body decodes. -/
theorem c03_req_accept_iff (o : Oracles) (cfg : Cfg) (gs : List Addr) (s : Signed) (r : ObsReq) :
    processObsReq o cfg gs s = .ok r ↔
      bytesToAddress s.addr ∈ gs ∧
      cfg.reqTooShort cfg.reqPrefix.length s.body.length = false ∧
      o.recover (o.H (cfg.reqPrefix ++ s.body)) s.sig = some (bytesToAddress s.addr) ∧
      o.decodeReq s.body = some r := by
  refine ⟨?_, fun ⟨hmem, hf, hr, hd⟩ => by simp [processObsReq, keyOf_of_mem hmem, hf, hr, hd]⟩
  fun_cases processObsReq o cfg gs s
  -- the last branch is the only one that returns `.ok`
  case case6 pk hk hf signer hr hs r' hd =>
    intro h
    obtain ⟨rfl, hmem⟩ := keyOf_some hk
    cases h
    cases Decidable.of_not_not hs
    exact ⟨hmem, Bool.eq_false_iff.2 hf, hr, hd⟩
  all_goals exact nofun

/-- a tiny concrete universe for the non-vacuity examples: guardian address `g`, outsider `x`; the digest function is
the identity, signature `[1]` over the heartbeat pre-image and `[2]` over the request pre-image recover to `g`. -/
private def g : Addr := List.replicate 20 7
private def x : Addr := List.replicate 20 9
private def body : Bytes := List.replicate 24 65
private def o : Oracles :=
  { H := id
    recover := fun d sg =>
      if d = Cfg.gen.hbPrefix ++ body ∧ sg = [1] then some g
      else if d = Cfg.gen.reqPrefix ++ body ∧ sg = [2] then some g
      else if sg = [3] then some x else none
    decodeHb := fun b => if b = body then some ⟨[1, 2], 5⟩ else none
    decodeReq := fun b => if b = body then some ⟨2, [9]⟩ else none }

example : processHeartbeat o Cfg.gen false [x, g] [] [80] ⟨body, [1], List.replicate 12 255 ++ g⟩
    = ([(g, [([80], ⟨[1, 2], 5⟩)])], .ok ⟨[1, 2], 5⟩) := by decide +kernel
example : processObsReq o Cfg.gen [g] ⟨body, [2], g⟩ = .ok ⟨2, [9]⟩ := by decide +kernel
-- a heartbeat signature presented as a request, an outsider, a member's address with the outsider's signature:
example : processObsReq o Cfg.gen [g] ⟨body, [1], g⟩ = .error .recoverFailed := by decide +kernel
example : (processHeartbeat o Cfg.gen false [g] [] [80] ⟨body, [3], x⟩).2 = .error .notInSet := by decide +kernel
example : (processHeartbeat o Cfg.gen false [g, x] [] [80] ⟨body, [3], g⟩).2 = .error .invalidSigner := by decide +kernel

/-- A rejected heartbeat leaves the table exactly as it was — whatever the reason and whatever `disableVerify` is. -/
theorem c03_reject_noop (o : Oracles) (cfg : Cfg) (dv : Bool) (gs : List Addr) (t : Table) (src : Peer) (s : Signed) (e : Err)
    (h : (processHeartbeat o cfg dv gs t src s).2 = .error e) : (processHeartbeat o cfg dv gs t src s).1 = t := by
  obtain ⟨e', he⟩ | ⟨_, _, _, _, _, _, _, hok⟩ := processHeartbeat_cases o cfg dv gs t src s
  · rw [he]
  · rw [hok] at h
    cases h

example : processHeartbeat o Cfg.gen false [g] [(g, [([80], ⟨[], 0⟩)])] [81] ⟨body, [3], g⟩
    = ([(g, [([80], ⟨[], 0⟩)])], .error .invalidSigner) := by decide +kernel

/-- In the node: a gossiped heartbeat or request that is not accepted changes neither the table nor the list of requests
handed to the chain watchers' dispatcher; an accepted request is appended unchanged, and touches no table. -/
theorem c03_reject_noop_node (o : Oracles) (cfg : Cfg) (n : Node) :
    (∀ gs src s e, (processHeartbeat o cfg false gs n.table src s).2 = .error e →
        (step o cfg n (.heartbeat gs src s)).table = n.table ∧ (step o cfg n (.heartbeat gs src s)).forwarded = n.forwarded) ∧
    (∀ gs s e, processObsReq o cfg gs s = .error e → step o cfg n (.obsReq gs s) = n) ∧
    (∀ gs s r, processObsReq o cfg gs s = .ok r →
        (step o cfg n (.obsReq gs s)).forwarded = n.forwarded ++ [r] ∧ (step o cfg n (.obsReq gs s)).table = n.table) ∧
    (∀ gs src s, (step o cfg n (.heartbeat gs src s)).forwarded = n.forwarded) :=
  ⟨fun gs src s e h => ⟨c03_reject_noop o cfg false gs n.table src s e h, rfl⟩, fun gs s e h => by simp only [step, h],
    fun gs s r h => by simp only [step, h, and_self], fun _ _ _ => rfl⟩

example : (step o Cfg.gen {} (.obsReq [g] ⟨body, [1], g⟩)).forwarded = [] ∧
    (step o Cfg.gen {} (.obsReq [g] ⟨body, [2], g⟩)).forwarded = [⟨2, [9]⟩] := by decide +kernel

/-- Whenever a heartbeat is accepted (even with `disableVerify`), the entry is written under the address RECOVERED from
the signature — never under the address the envelope merely claims — for the sending peer, with the decoded body, and
no other guardian's entries change. -/
theorem c03_stored_under_signer (o : Oracles) (cfg : Cfg) (dv : Bool) (gs : List Addr) (t t' : Table) (src : Peer)
    (s : Signed) (h : Hb) (hacc : processHeartbeat o cfg dv gs t src s = (t', .ok h)) :
    ∃ signer, o.recover (o.H (cfg.hbPrefix ++ s.body)) s.sig = some signer ∧
      o.decodeHb s.body = some h ∧
      t' = stored t signer src h ∧
      (t'.get signer).bind (fun v => v.lookup src) = some h ∧
      ∀ a, a ≠ signer → t'.get a = t.get a := by
  obtain ⟨e, he⟩ | ⟨signer, h', _, _, hr, hd, _, hok⟩ := processHeartbeat_cases o cfg dv gs t src s
  · rw [he] at hacc
    cases hacc
  · rw [hok] at hacc
    cases hacc
    refine ⟨signer, hr, hd, rfl, ?_, fun a ha => get_stored_ne t src h ha⟩
    rw [get_stored_self]
    exact assocSet_lookup_self ..

example : (processHeartbeat o Cfg.gen true [] [] [80] ⟨body, [3], g⟩).1 = [(x, [([80], ⟨[1, 2], 5⟩)])] := by decide +kernel

/-- Over a history an address comes to have an entry only through an operation that files for it.
`c03_only_members_enter` and `c03_entry_only_for_signer` each keep one half of `FilesUnder`. -/
theorem entry_only_filed (o : Oracles) (cfg : Cfg) (ops : List Op) (n : Node) (a : Addr)
    (h : a ∈ keys (run o cfg n ops).table) : a ∈ keys n.table ∨ ∃ op ∈ ops, FilesUnder o cfg op a := by
  induction ops generalizing n with
  | nil => exact Or.inl h
  | cons op ops ih =>
    obtain h1 | ⟨op', hm, hop⟩ := ih (step o cfg n op) h
    · obtain h' | ⟨now, h'⟩ | ⟨a', p, hb, hf, _, h'⟩ := step_table o cfg n op <;> rw [h'] at h1
      · exact Or.inl h1
      · exact Or.inl (keys_cleanup .. ▸ h1)
      · obtain rfl | h1 := mem_keys_stored h1
        · exact Or.inr ⟨op, List.mem_cons_self, hf⟩
        · exact Or.inl h1
    · exact Or.inr ⟨op', List.mem_cons_of_mem _ hm, hop⟩

/-- **Table cap.**  For every history of gossiped heartbeats (accepted or not), gossiped requests, the node's own
heartbeats and `Cleanup`s, starting from a table within the cap, every guardian holds at most `cap` node entries. -/
theorem c03_table_cap (o : Oracles) (cfg : Cfg) (hc : 1 ≤ cfg.cap) (ops : List Op) (n : Node) (h : CapOk cfg.cap n.table) :
    CapOk cfg.cap (run o cfg n ops).table := by
  induction ops generalizing n with
  | nil => exact h
  | cons op ops ih =>
    apply ih
    obtain h' | ⟨now, h'⟩ | ⟨a, p, hb, _, hroom, h'⟩ := step_table o cfg n op <;> rw [h']
    · exact h
    · exact capOk_cleanup h
    · exact capOk_stored hc h hroom

/-- … in particular with the extracted `MaxNodesPerGuardian`, from the empty table. -/
theorem c03_table_cap_gen (o : Oracles) (ops : List Op) :
    ∀ e ∈ (run o Cfg.gen {} ops).table, e.2.length ≤ Whv.Gen.C03.maxNodesPerGuardian :=
  c03_table_cap o Cfg.gen (by decide) ops {} nofun

example : (run o { Cfg.gen with cap := 2 } {} [.own g [1] ⟨[], 0⟩, .own g [2] ⟨[], 0⟩, .own g [3] ⟨[], 0⟩, .own g [1] ⟨[9], 0⟩,
    .cleanup 70000000000, .own g [3] ⟨[], 69000000000⟩]).table = [(g, [([3], ⟨[], 69000000000⟩)])] := by decide +kernel

/-- Who may legitimately obtain a table entry during a history: a member of the set in force whose address the
envelope names (and whose signature verified — `c03_hb_accept_iff`), or the node itself. -/
def Entitled (ops : List Op) (a : Addr) : Prop :=
  ∃ op ∈ ops, (∃ gs src s, op = .heartbeat gs src s ∧ a = bytesToAddress s.addr ∧ a ∈ gs) ∨ (∃ p hb, op = .own a p hb)

theorem c03_only_members_enter (o : Oracles) (cfg : Cfg) (ops : List Op) (n : Node) (a : Addr)
    (h : a ∈ keys (run o cfg n ops).table) : a ∈ keys n.table ∨ Entitled ops a :=
  (entry_only_filed o cfg ops n a h).imp_right fun ⟨op, hm, hf⟩ =>
    ⟨op, hm, hf.imp_left fun ⟨gs, src, s, hop, ha, hg, _⟩ => ⟨gs, src, s, hop, ha, hg⟩⟩

/-- The requests handed to the dispatcher over a history are exactly the accepted ones, in order, unchanged. -/
theorem c03_forwarded_exactly_verified (o : Oracles) (cfg : Cfg) (ops : List Op) (n : Node) :
    (run o cfg n ops).forwarded = n.forwarded ++ ops.filterMap (fun op =>
      match op with
      | .obsReq gs s => (match processObsReq o cfg gs s with | .ok r => some r | .error _ => none)
      | _ => none) := by
  induction ops generalizing n with
  | nil => exact (List.append_nil _).symm
  | cons op ops ih =>
    rw [run, ih, List.filterMap_cons]
    cases op with
    | obsReq gs s =>
      simp only [step]
      cases processObsReq o cfg gs s with
      | ok r => exact List.append_assoc ..
      | error e => rfl
    | _ => rfl

example : (run o Cfg.gen {} [.obsReq [g] ⟨body, [1], g⟩, .heartbeat [g] [80] ⟨body, [3], x⟩, .obsReq [g] ⟨body, [2], g⟩,
    .heartbeat [g] [80] ⟨body, [1], g⟩]).forwarded = [⟨2, [9]⟩] ∧
    keys (run o Cfg.gen {} [.heartbeat [g] [80] ⟨body, [3], x⟩, .heartbeat [g] [80] ⟨body, [1], g⟩]).table = [g] := by decide +kernel

/-- What can put an entry under address `a` during a history: a gossiped heartbeat whose signature — over the digest of the
heartbeat-domain pre-image — RECOVERS to `a` (whatever its envelope or its body say about who sent it), or the node's own
heartbeat for `a`. -/
def SignedFor (o : Oracles) (cfg : Cfg) (ops : List Op) (a : Addr) : Prop :=
  ∃ op ∈ ops, (∃ gs src s, op = .heartbeat gs src s ∧ o.recover (o.H (cfg.hbPrefix ++ s.body)) s.sig = some a) ∨
    (∃ p hb, op = .own a p hb)

/-- **Per address.**  After any history, an address has an entry in the heartbeat table only if it had one before or a
heartbeat whose signature recovers to that very address was received during the history (or the node filed its own).  A
member signing a heartbeat that NAMES another member or an outsider creates nothing under the named address. -/
theorem c03_entry_only_for_signer (o : Oracles) (cfg : Cfg) (ops : List Op) (n : Node) (a : Addr)
    (h : a ∈ keys (run o cfg n ops).table) : a ∈ keys n.table ∨ SignedFor o cfg ops a :=
  (entry_only_filed o cfg ops n a h).imp_right fun ⟨op, hm, hf⟩ =>
    ⟨op, hm, hf.imp_left fun ⟨gs, src, s, hop, _, _, hr⟩ => ⟨gs, src, s, hop, hr⟩⟩

-- `g` signs a heartbeat (signature `[1]`); the envelope of the second message names `g` but `x` signed it: no entry for `x`,
-- and none for anybody else either
example : keys (run o Cfg.gen {} [.heartbeat [g, x] [80] ⟨body, [1], g⟩, .heartbeat [g, x] [81] ⟨body, [3], g⟩]).table = [g] ∧
    SignedFor o Cfg.gen [.heartbeat [g, x] [80] ⟨body, [1], g⟩] g := by
  refine ⟨by decide +kernel, _, List.mem_singleton.2 rfl, Or.inl ⟨_, _, _, rfl, by decide +kernel⟩⟩

/-- a gossiped message the node drops in state `n` -/
def Dropped (o : Oracles) (cfg : Cfg) (n : Node) : Op → Prop
  | .heartbeat gs src s => ∃ e, (processHeartbeat o cfg false gs n.table src s).2 = .error e
  | .obsReq gs s => ∃ e, processObsReq o cfg gs s = .error e
  | _ => False

/-- **No trace.**  A history that consists of dropped messages only — any number of them, whoever they name — leaves the node
exactly as it was, so whatever arrives next (a genuine request of the guardian the forged ones named, say) is handled
precisely as it would have been without them: same table, same requests forwarded. -/
theorem c03_dropped_history_noop (o : Oracles) (cfg : Cfg) (ops : List Op) (n : Node)
    (h : ∀ op ∈ ops, Dropped o cfg n op) : run o cfg n ops = n ∧ ∀ next, step o cfg (run o cfg n ops) next = step o cfg n next := by
  -- every message is judged in the state `n` the history starts from: each leaves it as it is, so that is the state it meets
  have hrun : run o cfg n ops = n := by
    induction ops with
    | nil => rfl
    | cons op ops ih =>
      have hstep : step o cfg n op = n := by
        have hd := h op List.mem_cons_self
        cases op with
        | heartbeat gs src s =>
          obtain ⟨e, he⟩ := hd
          simp only [step]
          rw [c03_reject_noop o cfg false gs n.table src s e he]
        | obsReq gs s =>
          obtain ⟨e, he⟩ := hd
          simp only [step, he]
        | own | cleanup => exact hd.elim
      rw [run, hstep]
      exact ih fun op' hm => h op' (List.mem_cons_of_mem _ hm)
  exact ⟨hrun, fun next => by rw [hrun]⟩

-- 130 forged requests and 130 forged heartbeats naming `g` (signed by the outsider `x`), then `g`'s genuine request: forwarded
set_option maxRecDepth 20000 in
example : (run o Cfg.gen {} (List.replicate 130 (.obsReq [g] ⟨body, [3], g⟩) ++ List.replicate 130 (.heartbeat [g] [80] ⟨body, [3], g⟩) ++
    [.obsReq [g] ⟨body, [2], g⟩])).forwarded = [⟨2, [9]⟩] := by
  rw [run_append, (c03_dropped_history_noop o Cfg.gen _ {} _).1]
  · decide +kernel
  · intro op hm
    obtain hm | hm := List.mem_append.1 hm <;> rw [List.eq_of_mem_replicate hm] <;> exact ⟨.invalidSigner, by decide +kernel⟩

/-- the signed bytes of a VAA signature: the 32-byte inner hash whose Keccak is the VAA digest -/
def VaaPre (p : Bytes) : Prop := p.length = 32
/-- the signed bytes of an acceptable heartbeat -/
def HbPre (p : Bytes) : Prop := ∃ b, p = Cfg.gen.hbPrefix ++ b ∧ Cfg.gen.hbTooShort Cfg.gen.hbPrefix.length b.length = false
/-- the signed bytes of an acceptable observation request -/
def ReqPre (p : Bytes) : Prop := ∃ b, p = Cfg.gen.reqPrefix ++ b ∧ Cfg.gen.reqTooShort Cfg.gen.reqPrefix.length b.length = false

theorem floors_reject_32 {pre b : Bytes} (h : (pre ++ b).length = 32) :
    Cfg.gen.hbTooShort pre.length b.length = true ∧ Cfg.gen.reqTooShort pre.length b.length = true := by
  rw [List.length_append] at h
  simp only [Cfg.gen, Whv.Gen.C03.hbTooShort, Whv.Gen.C03.reqTooShort, decide_eq_true_eq]
  omega

/-- **Domain separation.**  The three sets of byte strings a guardian key ever signs for these purposes — 32-byte VAA
pre-images, `"heartbeat|" ++ b` of total length ≥ 34, `"signed_observation_request|" ++ b` of total length ≥ 34 — are
pairwise disjoint (lengths, resp. first byte).  So no signature made for one purpose is over the bytes of another. -/
theorem c03_domain_separation (p : Bytes) :
    ¬ (VaaPre p ∧ HbPre p) ∧ ¬ (VaaPre p ∧ ReqPre p) ∧ ¬ (HbPre p ∧ ReqPre p) := by
  refine ⟨?_, ?_, ?_⟩
  · rintro ⟨hv, b, rfl, hf⟩
    rw [(floors_reject_32 hv).1] at hf
    cases hf
  · rintro ⟨hv, b, rfl, hf⟩
    rw [(floors_reject_32 hv).2] at hf
    cases hf
  · rintro ⟨⟨b1, rfl, _⟩, b2, h2, _⟩
    -- both prefixes are prefixes of `p`, so one is a prefix of the other: false on the constants
    exact (List.prefix_or_prefix_of_prefix (List.prefix_append ..) ⟨b2, h2.symm⟩).elim (by decide) (by decide)

example : HbPre (Cfg.gen.hbPrefix ++ body) ∧ ReqPre (Cfg.gen.reqPrefix ++ body) ∧ VaaPre (List.replicate 32 0) :=
  ⟨⟨body, rfl, by decide +kernel⟩, ⟨body, rfl, by decide +kernel⟩, by simp [VaaPre]⟩

/-- **The floor is enforced before a signature can be accepted**: an accepted heartbeat's signature was checked against
the digest of a pre-image in the heartbeat domain (hence neither a VAA pre-image nor a request pre-image), an accepted
request's against one in the request domain. -/
theorem c03_accepted_preimage_in_own_domain (o : Oracles) (gs : List Addr) (t t' : Table) (src : Peer) (s : Signed) :
    (∀ h, processHeartbeat o Cfg.gen false gs t src s = (t', .ok h) →
      HbPre (Cfg.gen.hbPrefix ++ s.body) ∧ ¬ VaaPre (Cfg.gen.hbPrefix ++ s.body) ∧ ¬ ReqPre (Cfg.gen.hbPrefix ++ s.body) ∧
      o.recover (o.H (Cfg.gen.hbPrefix ++ s.body)) s.sig = some (bytesToAddress s.addr)) ∧
    (∀ r, processObsReq o Cfg.gen gs s = .ok r →
      ReqPre (Cfg.gen.reqPrefix ++ s.body) ∧ ¬ VaaPre (Cfg.gen.reqPrefix ++ s.body) ∧ ¬ HbPre (Cfg.gen.reqPrefix ++ s.body) ∧
      o.recover (o.H (Cfg.gen.reqPrefix ++ s.body)) s.sig = some (bytesToAddress s.addr)) := by
  constructor
  · intro h hacc
    obtain ⟨_, hf, hr, _⟩ := (c03_hb_accept_iff ..).1 hacc
    have hp : HbPre (Cfg.gen.hbPrefix ++ s.body) := ⟨s.body, rfl, hf⟩
    obtain ⟨h1, _, h3⟩ := c03_domain_separation (Cfg.gen.hbPrefix ++ s.body)
    exact ⟨hp, fun hv => h1 ⟨hv, hp⟩, fun hq => h3 ⟨hp, hq⟩, hr⟩
  · intro r hacc
    obtain ⟨_, hf, hr, _⟩ := (c03_req_accept_iff ..).1 hacc
    have hp : ReqPre (Cfg.gen.reqPrefix ++ s.body) := ⟨s.body, rfl, hf⟩
    obtain ⟨_, h2, h3⟩ := c03_domain_separation (Cfg.gen.reqPrefix ++ s.body)
    exact ⟨hp, fun hv => h2 ⟨hv, hp⟩, fun hq => h3 ⟨hq, hp⟩, hr⟩

/-- A validly signed heartbeat whose pre-image is 32 bytes long (the only length at which it could coincide with a VAA
pre-image) is rejected as too short, before any signature is looked at. -/
theorem c03_thirty_two_byte_preimage_rejected (o : Oracles) (dv : Bool) (gs : List Addr) (t : Table) (src : Peer) (s : Signed)
    (hmem : bytesToAddress s.addr ∈ gs) (hlen : (Cfg.gen.hbPrefix ++ s.body).length = 32) :
    processHeartbeat o Cfg.gen dv gs t src s = (t, .error .tooShort) := by
  unfold processHeartbeat
  rw [envelopeKey_of_mem dv hmem]
  exact if_pos (floors_reject_32 hlen).1

example : processHeartbeat o Cfg.gen false [g] [] [80] ⟨List.replicate 22 65, [1], g⟩ = ([], .error .tooShort) := by decide +kernel

/-- The prefixes are the protocol's `"heartbeat|"` and `"signed_observation_request|"` (every guardian signs under these),
both floor tests are `prefix length + body length < 34`, and the fixed per-guardian number of node entries is 15. -/
theorem c03_protocol_constants :
    Whv.Gen.C03.heartbeatPrefix = [104, 101, 97, 114, 116, 98, 101, 97, 116, 124] ∧
    Whv.Gen.C03.obsReqPrefix = [115, 105, 103, 110, 101, 100, 95, 111, 98, 115, 101, 114, 118, 97, 116, 105, 111, 110, 95,
      114, 101, 113, 117, 101, 115, 116, 124] ∧
    (∀ p n, Whv.Gen.C03.hbTooShort p n = decide (p + n < 34)) ∧
    (∀ p n, Whv.Gen.C03.reqTooShort p n = decide (p + n < 34)) ∧
    Whv.Gen.C03.maxNodesPerGuardian = 15 :=
  ⟨by decide +kernel, by decide +kernel, fun _ _ => rfl, fun _ _ => rfl, by decide +kernel⟩

example : "heartbeat|".toList.map (fun c => c.toNat) = Whv.Gen.C03.heartbeatPrefix.map (·.toNat) ∧
    "signed_observation_request|".toList.map (fun c => c.toNat) = Whv.Gen.C03.obsReqPrefix.map (·.toNat) :=
  -- a literal is `String.ofList` of its characters; `toList_ofList` spares the kernel the UTF-8 round trip
  ⟨(congrArg (List.map _) String.toList_ofList).trans (by decide +kernel),
    (congrArg (List.map _) String.toList_ofList).trans (by decide +kernel)⟩

/-- **Observation gate.** A gossiped observation affects the node only if its signature recovers to the address it
claims and that address belongs to the applicable guardian set (the entry's snapshot if it has one, else the current
set): any other observation — forged signature, signature over another digest, signer outside the set, a member using
another member's address, no set known yet — leaves aggregation state, store and guardian set untouched and emits
nothing. (This is `C02.invalid_observation_noop` on the processor model of `handleObservation`.) -/
theorem observation_gate_noop (O : Whv.Proc.Oracle) (cfg : Whv.Proc.Config) (s : Whv.Proc.PState) (o : Whv.Proc.Obs)
    (now : Int) (h : ¬ Whv.C02.Accepted O s o) :
    Whv.Proc.step O cfg s (.observation o now) = .ok s [] :=
  Whv.C02.invalid_observation_noop O cfg s o now h

/-- Conversely, whatever an accepted observation records is filed under the recovered signer, who is a member of the
applicable set: the only change to the aggregation map is at the observation's own digest. -/
theorem observation_changes_only_its_digest (O : Whv.Proc.Oracle) (cfg : Whv.Proc.Config) (s s' : Whv.Proc.PState)
    (o : Whv.Proc.Obs) (now : Int) (outs : List Whv.Proc.Out)
    (hr : Whv.Proc.step O cfg s (.observation o now) = .ok s' outs) :
    s'.gs = s.gs ∧ (s'.agg = s.agg ∨ ∃ st, s'.agg = Whv.Proc.alInsert o.hash st s.agg) := by
  -- the gate rejects and nothing changes, or it passes and `obsFinish` runs on the entry with the signature recorded
  obtain ⟨_, e⟩ | ⟨g, _, _, _, e⟩ := Whv.Proc.handleObservation_cases O s o now <;> rw [Whv.Proc.step, e] at hr
  · cases hr
    exact ⟨rfl, .inl rfl⟩
  · generalize Whv.Proc.recordSig _ _ _ = st at hr
    -- `obsFinish` panics (excluded by `hr`), files the entry, or files it and publishes: `agg` changes at `o.hash` only
    obtain ⟨_, e⟩ | ⟨_, e⟩ | ⟨v, _, _, _, e⟩ := Whv.Proc.obsFinish_cases o.hash g st <;> cases (e s).symm.trans hr
    all_goals exact ⟨rfl, .inr ⟨_, rfl⟩⟩

end Whv.C03
