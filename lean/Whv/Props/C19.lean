import Whv.Lemmas.Explorer
import Whv.Props.C06
/-!
# C19 — the explorer ingests only VAAs verified against the guardian set they name

Model: `Whv/Model/Explorer.lean` (atomic operations `update`, `getGuardianSet`, `push`; fine-grained
interleaving model `Fine.step`).  The statement has four parts:

1. a gossiped VAA is queued only if it carries valid signatures of a quorum of the set whose index it names
   (`c19_queued_verified`);
2. the set returned for index `i` is the set with index `i` (`c19_index_invariant`, `c19_get_returns_named`) …
3. … also while newer sets are appended concurrently (`c19_interleaving_safe` for the repaired code,
   `c19_interleaving_witness` for the pinned code, which violates it);
4. a VAA whose hand-off to the queue failed is not marked as seen, so a later copy can still be ingested
   (`c19_failed_not_marked`, `c19_marked_iff_queued`, `c19_retry_ingested`).

Right after a guardian-set change the named set is fetched on demand; when that lookup fails nothing stands in for it
(`c19_lookup_failed_no_effect`), a fetched set is the chain's answer for the very index asked for
(`c19_fetched_set_is_chain_answer`), and a later copy is judged against that answer (`c19_failed_lookup_then_recovered`).
-/
namespace Whv.C19
open Whv Whv.Explorer

/-- What both callers of `updateGuardianSets` feed it (`getGuardianSetsFromChain` from `current+1` read
earlier, so possibly below the present `current+1`): a contiguous range of `uint32` indexes starting at or
below `current + 1`. -/
def Fed (cur : Int) (sets : List GSet) : Prop :=
  ∃ start : Nat, Contig start sets ∧ (start : Int) ≤ cur + 1 ∧ ∀ x ∈ sets, x.index < two32

/-- **Index invariant.** `∀ i < list.length, list[i].index = i` (with `current = len-1`) is preserved by every
update fed with such a range, and the update then returns no error. -/
theorem c19_index_invariant (g : GS) (sets : List GSet) (hinv : Inv g.cur g.list) (hfed : Fed g.cur sets) :
    Inv (update g sets).1.cur (update g sets).1.list ∧ (update g sets).2 = .nil ∧
    ∃ tail, (update g sets).1.list = g.list ++ tail := by
  obtain ⟨h1, h2, k, h3⟩ := update_inv hinv hfed      -- `Fed` is `Fine.SetsOk` by definition
  exact ⟨h1, h2, _, h3⟩

/-- The invariant in the words of the statement. -/
theorem c19_invariant_pointwise (cur : Int) (list : List GSet) (hinv : Inv cur list) :
    ∀ i (h : i < list.length), list[i].index = i :=
  fun i h => (contig_get hinv.idx i h).trans (Nat.zero_add i)

/-- With `current` read in the present state the overtaken lookup is the atomic one. -/
theorem c19_stale_self (g : GS) (index : Int) (dial : Bool) (chain : Chain) :
    getGuardianSetStale g g.cur index dial chain = getGuardianSet g index dial chain := by
  by_cases h : index ≤ g.cur
  · rw [getGuardianSetStale, if_pos h]
  · rw [getGuardianSetStale, if_neg h, getGuardianSet, if_neg h]

/-- **Overlapping fetches keep positions and indexes together.** A lookup that read `current = cur0`, fetched
`[cur0+1 .. i]` and was overtaken — the periodic updater or other lookups appended any number of sets in between, so its batch
overlaps what is stored by now, partially or completely — still never panics, keeps the invariant, only appends, and returns
the set with index `i`. (`cur0 = g.cur` is `c19_get_returns_named`; every far-ahead index `i < 2^32` is included.) -/
theorem c19_overlapping_fetch_returns_named (g : GS) (cur0 index : Int) (dial : Bool) (chain : Chain)
    (hinv : Inv g.cur g.list) (hc0 : 0 ≤ cur0) (hle0 : cur0 ≤ g.cur) (h0 : 0 ≤ index) (hlt : index < (two32 : Int))
    (o : GetOut) (ho : o = getGuardianSetStale g cur0 index dial chain) :
    Inv o.st.cur o.st.list ∧ o.res ≠ .panic ∧ (∀ s, o.res = .ok s → (s.index : Int) = index ∧ listAt o.st.list index = some s ∧ index ≤ o.st.cur) ∧
    ∃ tail, o.st.list = g.list ++ tail := by
  obtain ⟨h1, h2, h3, tail, h4, -⟩ := getStale_spec hinv hc0 hle0 h0 ho
  exact ⟨h1, h2, h3, tail, h4⟩

/-- **Lookup returns the named set.** In a state satisfying the invariant, `GetGuardianSet(i)` for a `uint32`
index never panics, keeps the invariant (whatever the chain answers — RPC failures included), only appends,
and a returned set has index `i`. -/
theorem c19_get_returns_named (g : GS) (index : Int) (dial : Bool) (chain : Chain)
    (hinv : Inv g.cur g.list) (h0 : 0 ≤ index) (hlt : index < (two32 : Int))
    (o : GetOut) (ho : o = getGuardianSet g index dial chain) :
    Inv o.st.cur o.st.list ∧ o.res ≠ .panic ∧ (∀ s, o.res = .ok s → (s.index : Int) = index ∧ listAt o.st.list index = some s ∧ index ≤ o.st.cur) ∧
    ∃ tail, o.st.list = g.list ++ tail :=
  c19_overlapping_fetch_returns_named g g.cur index dial chain hinv hinv.cur_nonneg (Int.le_refl _) h0 hlt o
    (ho.trans (c19_stale_self g index dial chain).symm)

/-- **The start-up fetch establishes the invariant** (main.go: `GetGuardianSetsFromChain(0)` → `NewGuardianSets`): the sets
`0 … hi` fetched one after the other, in index order, make a list whose position `i` holds the set with index `i`; the
constructor does not panic and announces set `hi`. -/
theorem c19_boot_invariant (chain : Chain) (hi : Nat) (hhi : hi < two32) (sets : List GSet)
    (hf : fetchRange chain 0 hi = some sets) :
    ∃ g c, newGuardianSets sets = some (g, c) ∧ Inv g.cur g.list ∧ g.cur = hi ∧ c.index = hi := by
  obtain ⟨hc, hl, -⟩ := fetchLoop_spec hf
  have hl : sets.length = hi + 1 := hl
  have hcur : ((sets.length : Int) - 1) = hi := by rw [hl, Int.natCast_add]; exact Int.add_sub_cancel _ _
  have hinv : Inv ((sets.length : Int) - 1) sets :=
    ⟨(Int.sub_add_cancel _ _).symm, hc, fun e => (by rw [e] at hl; cases hl), (hl ▸ hhi : sets.length ≤ two32)⟩
  obtain ⟨c, hcur', hci⟩ := hinv.listAt_of_le hinv.cur_nonneg (Int.le_refl _)
  refine ⟨⟨(sets.length : Int) - 1, sets⟩, c, ?_, hinv, hcur, Int.ofNat_inj.mp (hci.trans hcur)⟩
  rw [newGuardianSets, getCurrent, hcur']

/-- `verifyVAA` returns nil only for a signed VAA with a quorum of `Valid` signatures (C06 Spec) of the given keys. -/
theorem c19_verify_sound (recover : Bytes → Option Addr) (v : Vaa) (addrs : Option (List Addr))
    (h : verifyVAA recover v addrs = none) :
    ∃ keys, addrs = some keys ∧ v.sigs ≠ [] ∧ quorum keys.length ≤ v.sigs.length ∧ C06.Valid recover v.sigs keys := by
  unfold verifyVAA at h
  cases addrs with
  | none => simp at h
  | some keys =>
    simp only at h
    by_cases h1 : v.sigs.length = 0
    · simp [h1] at h
    · simp only [h1, if_false] at h
      by_cases h2 : v.sigs.length < quorum keys.length
      · simp [h2] at h
      · simp only [h2, if_false] at h
        by_cases h3 : verifySignatures recover v.sigs keys = true
        · exact ⟨keys, rfl, fun e => h1 (by rw [e]; rfl), Nat.le_of_not_lt h2, (C06.verify_iff _ _ _).1 h3⟩
        · simp [h3] at h

/-- The gate is exact, not merely safe: `verifyVAA` accepts every signed VAA with a quorum of `Valid` signatures (C06 Spec). -/
theorem c19_verify_complete (recover : Bytes → Option Addr) (v : Vaa) (keys : List Addr)
    (h1 : v.sigs ≠ []) (h2 : quorum keys.length ≤ v.sigs.length) (h3 : C06.Valid recover v.sigs keys) :
    verifyVAA recover v (some keys) = none := by
  unfold verifyVAA
  have : v.sigs.length ≠ 0 := fun e => h1 (List.length_eq_zero_iff.mp e)
  simp [this, Nat.not_lt.mpr h2, (C06.verify_iff _ _ _).2 h3]

/-- With `current` read in the present state the overtaken `Push` is the atomic one, as the overtaken lookup is
(the driver replays every `gsget` / `push` line through the overtaken forms). -/
theorem c19_push_stale_self (g : GS) (v : Vaa) (recover : Bytes → Option Addr) (dial : Bool) (chain : Chain) (hit room : Bool) :
    pushStale g g.cur v recover dial chain hit room = push g v recover dial chain hit room := by
  unfold pushStale push
  rw [c19_stale_self]

/-- **Queued ⇒ verified against the named set, also when the lookup was overtaken**: the threshold and the keys the gate
applies are those of the set the VAA names, whatever other fetches completed in between. -/
theorem c19_overlapping_queued_verified (g : GS) (cur0 : Int) (v : Vaa) (recover : Bytes → Option Addr) (dial : Bool) (chain : Chain)
    (hit room : Bool) (hinv : Inv g.cur g.list) (hc0 : 0 ≤ cur0) (hle0 : cur0 ≤ g.cur) (hidx : v.gsIndex < two32)
    (hq : (pushStale g cur0 v recover dial chain hit room).enq = true) :
    ∃ s keys, (getGuardianSetStale g cur0 (v.gsIndex : Int) dial chain).res = .ok s ∧ s.index = v.gsIndex ∧ s.keys = some keys ∧
      v.sigs ≠ [] ∧ quorum keys.length ≤ v.sigs.length ∧ C06.Valid recover v.sigs keys := by
  obtain ⟨s, hr, hv⟩ := pushStale_passed (.inl hq)
  obtain ⟨keys, hk, h⟩ := c19_verify_sound recover v s.keys hv
  have := (getStale_spec hinv hc0 hle0 (Int.natCast_nonneg _) rfl).2.2.1 s hr
  exact ⟨s, keys, hr, Int.ofNat_inj.mp this.1, hk, h⟩

/-- **Queued ⇒ verified against the named set.** If `Push` puts the VAA on the queue then the guardian-set
lookup returned the set whose index the VAA carries, and the VAA is signed, has a quorum of that set, and its
signatures are `Valid` for that set's keys. -/
theorem c19_queued_verified (g : GS) (v : Vaa) (recover : Bytes → Option Addr) (dial : Bool) (chain : Chain)
    (hit room : Bool) (hinv : Inv g.cur g.list) (hidx : v.gsIndex < two32)
    (hq : (push g v recover dial chain hit room).enq = true) :
    ∃ s keys, (getGuardianSet g (v.gsIndex : Int) dial chain).res = .ok s ∧ s.index = v.gsIndex ∧ s.keys = some keys ∧
      v.sigs ≠ [] ∧ quorum keys.length ≤ v.sigs.length ∧ C06.Valid recover v.sigs keys := by
  rw [← c19_push_stale_self] at hq
  rw [← c19_stale_self]
  exact c19_overlapping_queued_verified g g.cur v recover dial chain hit room hinv hinv.cur_nonneg (Int.le_refl _) hidx hq

/-- **The dedup key is stored exactly when the message was queued** — in every outcome of `Push`. -/
theorem c19_marked_iff_queued (g : GS) (v : Vaa) (recover : Bytes → Option Addr) (dial : Bool) (chain : Chain) (hit room : Bool) :
    (push g v recover dial chain hit room).stored = (push g v recover dial chain hit room).enq := by
  unfold push
  generalize getGuardianSet g (v.gsIndex : Int) dial chain = o
  dsimp only
  cases o.res with
  | err => rfl
  | panic => rfl
  | ok s =>
    dsimp only
    cases verifyVAA recover v s.keys with
    | some e => rfl
    | none => cases hit <;> cases room <;> rfl

/-- **A failed hand-off is not marked as seen** (and nothing was queued). -/
theorem c19_failed_not_marked (g : GS) (v : Vaa) (recover : Bytes → Option Addr) (dial : Bool) (chain : Chain) (hit room : Bool)
    (hfull : (push g v recover dial chain hit room).res = .full) :
    (push g v recover dial chain hit room).stored = false ∧ (push g v recover dial chain hit room).enq = false ∧
    hit = false ∧ room = false := by
  unfold push at hfull ⊢
  generalize getGuardianSet g (v.gsIndex : Int) dial chain = o at hfull ⊢
  dsimp only at hfull ⊢
  cases hr : o.res with
  | err => rw [hr] at hfull; cases hfull
  | panic => rw [hr] at hfull; cases hfull
  | ok s =>
    rw [hr] at hfull
    dsimp only at hfull ⊢
    cases hv : verifyVAA recover v s.keys with
    | some e => rw [hv] at hfull; cases hfull
    | none =>
      rw [hv] at hfull
      -- `.full` is the result for `hit = false`, `room = false` only
      cases hit with
      | true => cases hfull
      | false =>
        cases room with
        | true => cases hfull
        | false => exact ⟨rfl, rfl, rfl, rfl⟩

/-- … **so a later copy can still be ingested**: after a hand-off that failed because the queue was full, the
same VAA pushed again (the cache, not having been written, still answers "not seen"), with room in the queue,
is queued — whatever the chain does in the meantime. -/
theorem c19_retry_ingested (g : GS) (v : Vaa) (recover : Bytes → Option Addr) (dial dial' : Bool) (chain chain' : Chain)
    (hinv : Inv g.cur g.list) (hidx : v.gsIndex < two32)
    (hfull : (push g v recover dial chain false false).res = .full) :
    (push (push g v recover dial chain false false).st v recover dial' chain' false true).res = .queued ∧
    (push (push g v recover dial chain false false).st v recover dial' chain' false true).enq = true := by
  rw [← c19_push_stale_self] at hfull
  obtain ⟨s, hr, hv⟩ := pushStale_passed (.inr hfull)
  obtain ⟨-, hat, hle⟩ := (getStale_spec hinv hinv.cur_nonneg (Int.le_refl _) (Int.natCast_nonneg _) rfl).2.2.1 s hr
  rw [← c19_push_stale_self g, pushStale_st]
  -- the set looked up the first time is stored by now, so the second lookup takes the fast path
  rw [push, get_fast hle hat]
  simp [hv, apply]

/-- **A lookup that cannot be served has no effect.** A VAA naming a set the explorer does not hold yet, while the chain cannot
be dialled or one request of the range `[current+1 .. named]` fails (whichever one: `fetchRange` is all-or-nothing): `Push`
returns the lookup's error, nothing is queued, nothing is marked as seen, no set is stored or announced — in particular no other
set stands in for the named one. -/
theorem c19_lookup_failed_no_effect (g : GS) (v : Vaa) (recover : Bytes → Option Addr) (dial : Bool) (chain : Chain) (hit room : Bool)
    (hgt : g.cur < (v.gsIndex : Int))
    (hfail : dial = false ∨ fetchRange chain (u32 (g.cur + 1)) (u32 (v.gsIndex : Int)) = none) :
    (push g v recover dial chain hit room).res = .getErr ∧ (push g v recover dial chain hit room).enq = false ∧
    (push g v recover dial chain hit room).stored = false ∧ (push g v recover dial chain hit room).st = g ∧
    (push g v recover dial chain hit room).sent = [] := by
  obtain ⟨a, e⟩ := getStale_failed g (Int.not_le.mpr hgt) hfail
  rw [push, ← c19_stale_self, e]
  exact ⟨rfl, rfl, rfl, rfl, rfl⟩

/-- **A set fetched on demand is the chain's answer for the index asked for**: when `GetGuardianSet(i)` for an index beyond
`current` succeeds, the set it returns carries index `i` and exactly the keys the chain answered for `getGuardianSet(i)` — not
those of any set that was stored before, however many keys the two share. -/
theorem c19_fetched_set_is_chain_answer (g : GS) (index : Int) (dial : Bool) (chain : Chain)
    (hinv : Inv g.cur g.list) (hgt : g.cur < index) (hlt : index < (two32 : Int)) (s : GSet)
    (hr : (getGuardianSet g index dial chain).res = .ok s) :
    s.index = index.toNat ∧ chain index.toNat = some s.keys := by
  have h0 : 0 ≤ index := Int.le_trans hinv.cur_nonneg (Int.le_of_lt hgt)
  obtain ⟨-, -, h3, tail, h4, h5⟩ := getStale_spec hinv hinv.cur_nonneg (Int.le_refl _) h0
    (c19_stale_self g index dial chain).symm
  obtain ⟨hi, hat, -⟩ := h3 s hr
  have hi : s.index = index.toNat := by rw [← hi]; rfl
  -- position `index` lies beyond the list as it was, so the set is one of those appended
  have hlen : g.list.length ≤ index.toNat := (Int.le_toNat h0).mpr (hinv.len ▸ Int.add_one_le_of_lt hgt)
  rw [h4, listAt, if_neg (Int.not_lt.mpr h0), List.getElem?_append_right hlen] at hat
  exact ⟨hi, hi ▸ h5 s (List.mem_of_getElem? hat)⟩

/-- **After the lookup has recovered the VAA is judged against the named set as the chain defines it.** A `Push` whose on-demand
lookup failed, followed by a `Push` of the same VAA (any cache answer, any queue state, any chain behaviour by then): if the second
one queues the VAA, the chain has answered `getGuardianSet` for the index the VAA names, and the VAA is signed, carries a quorum
for the *size of that answer* and its signatures are `Valid` for *those keys* — the failed attempt left nothing behind that could
stand in for them. -/
theorem c19_failed_lookup_then_recovered (g : GS) (v : Vaa) (recover : Bytes → Option Addr) (dial dial' : Bool) (chain chain' : Chain)
    (hit room hit' room' : Bool) (hinv : Inv g.cur g.list) (hidx : v.gsIndex < two32) (hgt : g.cur < (v.gsIndex : Int))
    (hfail : dial = false ∨ fetchRange chain (u32 (g.cur + 1)) (u32 (v.gsIndex : Int)) = none)
    (hq : (push (push g v recover dial chain hit room).st v recover dial' chain' hit' room').enq = true) :
    ∃ keys, chain' v.gsIndex = some (some keys) ∧ v.sigs ≠ [] ∧ quorum keys.length ≤ v.sigs.length ∧ C06.Valid recover v.sigs keys := by
  rw [(c19_lookup_failed_no_effect g v recover dial chain hit room hgt hfail).2.2.2.1] at hq
  obtain ⟨s, keys, hr, _, hk, h⟩ := c19_queued_verified g v recover dial' chain' hit' room' hinv hidx hq
  have := (c19_fetched_set_is_chain_answer g (v.gsIndex : Int) dial' chain' hinv hgt (Int.ofNat_lt.mpr hidx) s hr).2
  exact ⟨keys, hk ▸ this, h⟩

/-- **What the gate lets through, `VerifySignatures` accepts** (the call-site form of C06 for the explorer, clause
`gate-accepts-invalid-signature-list` of the driver): `verifyVAA` returns nil only if the model of `VerifySignatures` — and by
`C06.verify_iff` the C06 Spec — accepts the VAA's *whole* signature list against the very key list it was given, however many
signatures beyond a quorum the list carries. -/
theorem c19_gate_accepts_only_verifiable (recover : Bytes → Option Addr) (v : Vaa) (addrs : Option (List Addr))
    (h : verifyVAA recover v addrs = none) :
    ∃ keys, addrs = some keys ∧ verifySignatures recover v.sigs keys = true ∧ C06.Valid recover v.sigs keys := by
  obtain ⟨keys, hk, _, _, hv⟩ := c19_verify_sound recover v addrs h
  exact ⟨keys, hk, (C06.verify_iff _ _ _).2 hv, hv⟩

/-- One gossiped VAA together with its surroundings at the moment it arrives: the ecrecover oracle for its digest, whether the
chain can be dialled and what it answers, what the dedup cache answers for the VAA's message id (`hit` — an arbitrary function
of the cache's history: marked, never marked because the hand-off failed, expired, evicted), and whether the queue has room. -/
structure Arrival where
  v : Vaa
  recover : Bytes → Option Addr
  dial : Bool
  chain : Chain
  hit : Bool
  room : Bool

/-- `Push` for one arrival. -/
def arrive (g : GS) (a : Arrival) : PushOut := push g a.v a.recover a.dial a.chain a.hit a.room

/-- The guardian-set state after a history of arrivals (the only state `Push` carries from one VAA to the next). -/
def stateAfter (g : GS) : List Arrival → GS
  | [] => g
  | a :: l => stateAfter (arrive g a).st l

private theorem stateAfter_inv (hist : List Arrival) : ∀ (g : GS), Inv g.cur g.list →
    Inv (stateAfter g hist).cur (stateAfter g hist).list := by
  induction hist with
  | nil => intro g h; exact h
  | cons a l ih =>
    intro g hinv
    refine ih _ ?_
    rw [arrive, ← c19_push_stale_self, pushStale_st]
    exact (getStale_spec hinv hinv.cur_nonneg (Int.le_refl _) (Int.natCast_nonneg _) rfl).1

/-- **Queued ⇒ verified, after every history.** Whatever VAAs arrived before — genuine ones with the same message id that
were verified and queued, or verified and *not* marked because the queue was full, or whose dedup entry has expired since;
forged ones; in any order, with any cache answers and any chain behaviour — a VAA that `Push` puts on the queue carries valid
signatures of a quorum of the set whose index it names. Verification is never inherited from an earlier VAA. -/
theorem c19_history_queued_verified (g : GS) (hinv : Inv g.cur g.list) (hist : List Arrival) (a : Arrival)
    (hidx : ∀ x ∈ hist, x.v.gsIndex < two32) (ha : a.v.gsIndex < two32)
    (hq : (arrive (stateAfter g hist) a).enq = true) :
    ∃ s keys, (getGuardianSet (stateAfter g hist) (a.v.gsIndex : Int) a.dial a.chain).res = .ok s ∧ s.index = a.v.gsIndex ∧
      s.keys = some keys ∧ a.v.sigs ≠ [] ∧ quorum keys.length ≤ a.v.sigs.length ∧ C06.Valid a.recover a.v.sigs keys :=
  c19_queued_verified (stateAfter g hist) a.v a.recover a.dial a.chain a.hit a.room (stateAfter_inv hist g hinv) ha hq

/-- … in particular **a forged copy is not queued**: a VAA that is unsigned, or short of a quorum of the set it names, or whose
signature list `VerifySignatures` rejects against that set, is not queued after any history — also not directly after a genuine
VAA with the same message id whose hand-off failed. -/
theorem c19_unverified_never_queued (g : GS) (hinv : Inv g.cur g.list) (hist : List Arrival) (a : Arrival)
    (hidx : ∀ x ∈ hist, x.v.gsIndex < two32) (ha : a.v.gsIndex < two32)
    (hbad : ∀ s keys, (getGuardianSet (stateAfter g hist) (a.v.gsIndex : Int) a.dial a.chain).res = .ok s → s.keys = some keys →
      a.v.sigs = [] ∨ a.v.sigs.length < quorum keys.length ∨ verifySignatures a.recover a.v.sigs keys = false) :
    (arrive (stateAfter g hist) a).enq = false := by
  cases hq : (arrive (stateAfter g hist) a).enq with
  | false => rfl
  | true =>
    obtain ⟨s, keys, hr, _, hk, h1, h2, h3⟩ := c19_history_queued_verified g hinv hist a hidx ha hq
    rcases hbad s keys hr hk with h | h | h
    · exact absurd h h1
    · exact absurd h (Nat.not_lt.mpr h2)
    · rw [(C06.verify_iff _ _ _).2 h3] at h; cases h

def kA : Addr := [0xA]
def kB : Addr := [0xB]
def kC : Addr := [0xC]
def demoRec : Bytes → Option Addr := fun s => match s with
  | [1] => some kA | [2] => some kB | [3] => some kC | _ => none
def demoBody : Body := ⟨0, 0, 2, 0, [], 7, 1, [1]⟩
def demoG : GS := ⟨0, [⟨0, some [kA]⟩]⟩
/-- the chain knows set 1 = {A, B, C} -/
def demoChain : Chain := fun i => if i = 1 then some (some [kA, kB, kC]) else some (some [])
/-- a VAA naming set 1, signed by guardians 0, 1 and 2 of set 1 (quorum of 3 is 3) -/
def demoV : Vaa := ⟨1, 1, [⟨0, [1]⟩, ⟨1, [2]⟩, ⟨2, [3]⟩], demoBody⟩

example : Inv demoG.cur demoG.list := ⟨by decide, ⟨rfl, trivial⟩, by decide, by decide⟩
example : Fed demoG.cur [⟨1, some [kA, kB, kC]⟩] := ⟨1, ⟨rfl, trivial⟩, by decide, by decide⟩
-- fetched from the chain, verified against set 1, queued
example : (push demoG demoV demoRec true demoChain false true).res = .queued := by decide +kernel
-- only two of three signatures: rejected
example : (push demoG { demoV with sigs := [⟨0, [1]⟩, ⟨1, [2]⟩] } demoRec true demoChain false true).res = .invalid .noQuorum := by decide +kernel
-- the same signatures presented as a VAA of set 0 = {A}: rejected
example : (push demoG { demoV with gsIndex := 0 } demoRec true demoChain false true).res = .invalid .badSignatures := by decide +kernel
-- queue full: not stored; pushed again with room: queued
example : (push demoG demoV demoRec true demoChain false false).res = .full := by decide +kernel
example : (push (push demoG demoV demoRec true demoChain false false).st demoV demoRec false demoChain false true).res = .queued := by decide +kernel

-- the gate: all three signatures verify against set 1; with a fourth, surplus signature that repeats index 2 it is rejected
example : verifyVAA demoRec demoV (some [kA, kB, kC]) = none := by decide +kernel
example : verifyVAA demoRec { demoV with sigs := demoV.sigs ++ [⟨2, [3]⟩] } (some [kA, kB, kC]) = some .badSignatures := by decide +kernel
/-- the genuine VAA arrives while the queue is full: verified, hand-off fails, not marked -/
def demoGenuineFull : Arrival := ⟨demoV, demoRec, true, demoChain, false, false⟩
/-- a forged copy (same emitter / sequence, another payload, no valid signature for its digest) arrives with room in the queue -/
def demoForged : Arrival := ⟨{ demoV with body := { demoBody with payload := [9] } }, fun _ => none, true, demoChain, false, true⟩
example : (arrive demoG demoGenuineFull).res = .full := by decide +kernel
example : ∀ x ∈ [demoGenuineFull], x.v.gsIndex < two32 := by decide +kernel
example : (arrive (stateAfter demoG [demoGenuineFull]) demoForged).res = .invalid .badSignatures := by decide +kernel
example : (arrive (stateAfter demoG [demoGenuineFull]) demoForged).enq = false := by decide +kernel
-- and the genuine one, pushed again after the forged copy, is queued
example : (arrive (stateAfter demoG [demoGenuineFull, demoForged]) { demoGenuineFull with room := true }).enq = true := by decide +kernel

/-- sets 2 (three keys) and 3 (one key) exist on chain; everything else is an empty key list -/
def demoChain2 : Chain := fun i => if i = 2 then some (some [kA, kB, kC]) else if i = 3 then some (some [kC]) else some (some [])
/-- the explorer knows 0..1 when the lookup of set 3 starts; another lookup appends set 2 before its batch `[2,3]` arrives -/
def demoG01 : GS := ⟨1, [⟨0, some [kA]⟩, ⟨1, some [kB]⟩]⟩
def demoG012 : GS := (getGuardianSet demoG01 2 true demoChain2).st
example : demoG012 = ⟨2, [⟨0, some [kA]⟩, ⟨1, some [kB]⟩, ⟨2, some [kA, kB, kC]⟩]⟩ := by decide +kernel
example : Inv demoG012.cur demoG012.list := ⟨by decide, ⟨rfl, rfl, rfl, trivial⟩, by decide, by decide⟩
-- partially overlapping batch [2,3] on 0..2: only set 3 is appended, and it is what the lookup returns
example : (getGuardianSetStale demoG012 1 3 true demoChain2).res = .ok ⟨3, some [kC]⟩ := by decide +kernel
example : (getGuardianSetStale demoG012 1 3 true demoChain2).st.list.map (·.index) = [0, 1, 2, 3] := by decide +kernel
-- repeated batch [2] on 0..2: nothing is appended
example : (getGuardianSetStale demoG012 1 2 true demoChain2).st = demoG012 := by decide +kernel
-- a VAA of the three-key set 2 with one signature is refused after the overlap (threshold 3, not set 1's 1)
example : (pushStale demoG012 1 ⟨1, 2, [⟨0, [1]⟩], demoBody⟩ demoRec true demoChain2 false true).res = .invalid .noQuorum := by decide +kernel
-- far ahead: the chain is 12 sets ahead of the explorer; one lookup fetches all of them, every index then answers with its own set
def demoFar : GS := (getGuardianSet demoG 12 true demoChain2).st
example : demoFar.cur = 12 ∧ demoFar.list.map (·.index) = [0, 1, 2, 3, 4, 5, 6, 7, 8, 9, 10, 11, 12] := by decide +kernel
example : ((List.range 13).all fun i => match (getGuardianSet demoFar i false demoChain2).res with | .ok s => s.index == i | _ => false) = true := by decide +kernel
-- start-up
example : (fetchRange demoChain2 0 3).map (·.map (·.index)) = some [0, 1, 2, 3] := by decide +kernel

-- the on-demand lookup fails right after a set change: set 0 = {A} is stored, set 1 = {A, B, C} keeps A at position 0
/-- the endpoint answers nothing -/
def demoDown : Chain := fun _ => none
/-- the first request of a two-set range is served, the second fails -/
def demoHalfDown : Chain := fun i => if i = 1 then some (some [kA, kB, kC]) else none
/-- a VAA naming set 1 with ONE signature, by the guardian both sets have at position 0 -/
def demoWeak : Vaa := { demoV with sigs := [⟨0, [1]⟩] }
example : fetchRange demoDown (u32 (demoG.cur + 1)) (u32 (demoWeak.gsIndex : Int)) = none := by decide +kernel
example : fetchRange demoHalfDown (u32 (demoG.cur + 1)) (u32 (2 : Int)) = none := by decide +kernel
-- it WOULD pass the gate of the stored set (threshold 1) …
example : verifyVAA demoRec demoWeak (some [kA]) = none := by decide +kernel
-- … but is not judged at all while the named set cannot be fetched, and nothing is left behind
example : push demoG demoWeak demoRec true demoDown false true = ⟨demoG, .getErr, [], some (1, 1), false, false⟩ := by decide +kernel
example : (push demoG { demoWeak with gsIndex := 2 } demoRec true demoHalfDown false true).st = demoG := by decide +kernel
example : (push demoG demoWeak demoRec false demoChain false true).res = .getErr := by decide +kernel
-- once the node answers again it is judged against set 1 as the chain defines it: one signature of three required
example : (push (push demoG demoWeak demoRec true demoDown false true).st demoWeak demoRec true demoChain false true).res = .invalid .noQuorum := by decide +kernel
-- and the complete VAA, dropped while the lookup failed, is ingested when it arrives again
example : (push demoG demoV demoRec true demoDown false true).enq = false := by decide +kernel
example : (push (push demoG demoV demoRec true demoDown false true).st demoV demoRec true demoChain false true).enq = true := by decide +kernel
example : (getGuardianSet demoG 1 true demoChain).res = .ok ⟨1, some [kA, kB, kC]⟩ ∧ demoChain 1 = some (some [kA, kB, kC]) := by decide +kernel

section Interleaving
open Whv.Explorer.Fine

/-- Start of a concurrent run: the invariant holds, nobody holds the lock, every goroutine (there may be
infinitely many) is about to start its operation — a lookup `get i` or a refresh `refresh b` (read `current`,
fetch `[current+1 .. b]` from the chain, `updateGuardianSets`) with `uint32` arguments. -/
structure Init (s : Sys) : Prop where
  inv : Inv s.cur s.list
  lock : s.lock = none
  idle : ∀ k, (s.threads k).pc = .idle
  bound : ∀ k, OpBound (s.threads k).op

private theorem init_J (cfg : Cfg) (s : Sys) (h : Init s) : J cfg s :=
  .of_threads (fun _ => h.inv) fun k => by
    rw [h.lock, Local, h.idle k]
    -- idle and the lock free: not in a critical section and not the owner; nothing held; nothing known besides the bound
    exact ⟨⟨False.elim, nofun⟩, nofun, h.bound k, trivial⟩

/-- **Interleaving safety (repaired code).** With the reads of `currentGuardianSetIndex` / `guardianSetLists`
taken under `gs.lock` (either order of the two writes), for every chain, every set of goroutines and **every
schedule**: whenever the lock is free the index invariant holds, and every finished lookup `get i` has not
panicked and, if it returned a set, returned the set with index `i` — also while other goroutines are in the
middle of appending newer sets. -/
theorem c19_interleaving_safe (cfg : Cfg) (hlr : cfg.lockedReads = true) (chain : Nat → Option (List Addr))
    (s₀ : Sys) (h : Init s₀) (sched : List Nat) :
    ((run cfg chain s₀ sched).lock = none → Inv (run cfg chain s₀ sched).cur (run cfg chain s₀ sched).list) ∧
    ∀ k i r, ((run cfg chain s₀ sched).threads k).op = .get i → ((run cfg chain s₀ sched).threads k).pc = .done r →
      r ≠ .panic ∧ ∀ x, r = .ok x → x.index = i := by
  have hJ := run_preserves chain hlr sched s₀ (init_J cfg s₀ h)
  refine ⟨hJ.free, fun k i r ho hp => ?_⟩
  have := hJ.res k i r ho hp
  cases r with
  | ok x => exact ⟨nofun, fun y e => by cases e; exact this⟩
  | miss | unit => exact ⟨nofun, nofun⟩
  | panic => exact this.elim

/-- The instance for the code as repaired by `fixes/C19-guardian-set-read-lock.diff`. -/
theorem c19_interleaving_safe_repaired (chain : Nat → Option (List Addr)) (s₀ : Sys) (h : Init s₀) (sched : List Nat)
    (k i : Nat) (r : Res) (ho : ((run repaired chain s₀ sched).threads k).op = .get i)
    (hp : ((run repaired chain s₀ sched).threads k).pc = .done r) : r ≠ .panic ∧ ∀ x, r = .ok x → x.index = i :=
  (c19_interleaving_safe repaired rfl chain s₀ h sched).2 k i r ho hp

/-- One guardian set known; goroutine 0 refreshes up to index 1, goroutine 1 looks up index 1. -/
def wSys : Sys := ⟨0, [⟨0, some [kA]⟩], none, fun k => if k = 0 then ⟨.refresh 1, .idle⟩ else ⟨.get 1, .idle⟩⟩
def wChain : Nat → Option (List Addr) := fun _ => some [kB]
/-- refresh: read+fetch, Lock, first write (index := 1) — then the lookup reads the index, then the list. -/
def wSched : List Nat := [0, 0, 0, 1, 1]

private theorem wSys_init : Init wSys where
  inv := ⟨by decide, ⟨rfl, trivial⟩, by decide, by decide⟩
  lock := rfl
  idle := fun k => by
    unfold wSys
    by_cases h : k = 0 <;> simp [h]
  bound := fun k => by
    unfold wSys
    by_cases h : k = 0 <;> simp [h, OpBound, two32]

/-- **Interleaving witness (pinned code).** The pinned code — unlocked reads, index published before the
append — violates the statement: in the schedule `wSched` the lookup of index 1 runs between the two writes
of the update, finds `1 <= current` and indexes a list that still has one element: a panic
(`index out of range [1] with length 1`, exactly what the harness observes). -/
theorem c19_interleaving_witness :
    ¬ (∀ (chain : Nat → Option (List Addr)) (s₀ : Sys) (_ : Init s₀) (sched : List Nat) (k i : Nat) (r : Res),
        ((run pinned chain s₀ sched).threads k).op = .get i → ((run pinned chain s₀ sched).threads k).pc = .done r →
        r ≠ .panic ∧ ∀ x, r = .ok x → x.index = i) := by
  intro h
  have := h wChain wSys wSys_init wSched 1 1 .panic (by decide +kernel) (by decide +kernel)
  exact this.1 rfl

-- the same schedule on the repaired code: the lookup is blocked while the update holds the lock …
example : ((run repaired wChain wSys wSched).threads 1).pc = .idle := by decide +kernel
-- … and once the update is through it returns set 1
example : ((run repaired wChain wSys (wSched ++ [0, 0, 1, 1])).threads 1).pc = .done (.ok ⟨1, some [kB]⟩) := by decide +kernel
-- a schedule in which the pinned code happens to behave
example : ((run pinned wChain wSys [0, 0, 0, 0, 0, 1, 1]).threads 1).pc = .done (.ok ⟨1, some [kB]⟩) := by decide +kernel

end Interleaving

end Whv.C19
