import Whv.Lemmas.Db
import Whv.Props.C05
/-!
# C12 — stored VAAs come back byte-exact and emitter queries never mix streams

Model: `Whv/Model/Db.lean` (keys of `structs.go`, `db.go` with the REPAIRED gap scan prefix, the lookup RPCs, `FindMissingMessages`),
tied to the Go code by the correspondence runs of `checks/c12.py`. Badger's ordered prefix iteration is assumed (the store is an
association list, a scan sorts by key and filters by prefix). Histories are chronological lists of successful stores.

Domain: identifiers with a 32-byte emitter address (`IdOK`, what the Go type can hold); for the scans, VAAs in the C05 domain (`Vaa.WF`).
-/
namespace Whv.C12
open Whv Whv.Db

/-- Two identifiers have the same store key only if they are the same identifier (decimal renderings contain no `/`,
the address rendering has fixed width). -/
theorem key_injective (a b : VaaId) (ha : IdOK a) (hb : IdOK b) (h : key a = key b) : a = b :=
  key_inj (by rw [ha, hb]) h

private theorem inStream_iff (s : Stream) (i : VaaId) :
    inStream s i = true ↔ i.emitterChain = s.ec ∧ i.emitter = s.addr ∧ i.targetChain = s.tc := by
  simp [inStream, and_assoc]

/-- A key lies under the (repaired) gap-scan prefix of stream `s` iff its identifier is in stream `s`. -/
theorem prefix_iff_stream (s : Stream) (hs : s.addr.length = 32) (i : VaaId) (hi : IdOK i) :
    gapPrefix s.ec s.addr s.tc <+: key i ↔ inStream s i = true := by
  rw [gapPrefix_prefix_iff (by rw [hs, hi]), inStream_iff]

/-- A key lies under `GovernanceEmitterPrefixBytes` of `(ec, addr)` iff the identifier has that emitter
(the prefix ends in the fixed-width address, so no separator is needed there). -/
theorem gov_prefix_iff_emitter (ec : Nat) (addr : Bytes) (ha : addr.length = 32) (i : VaaId) (hi : IdOK i) :
    govPrefix ec addr <+: key i ↔ (i.emitterChain = ec ∧ i.emitter = addr) :=
  govPrefix_prefix_iff (by rw [ha, hi])

private def addrA : Bytes := List.replicate 32 7

/-- Why the repair is needed: `EmitterPrefixBytes` itself (no trailing separator) of target chain 2 is a prefix of a key of
target chain 25 — scanning with it mixes streams. -/
theorem emitterPrefix_mixes_streams :
    ∃ i : VaaId, IdOK i ∧ i.targetChain ≠ 2 ∧ emitterPrefix 13 addrA 2 <+: key i :=
  ⟨⟨13, addrA, 25, 9⟩, by decide, by decide, ['5', '/', '9'], by
    -- the rendering of 2 is a prefix of the rendering of 25, and nothing separates it from what follows
    have : decChars 2 ++ ['5', '/', '9'] = decChars 25 ++ '/' :: decChars 9 := by decide +kernel
    rw [key_split, emitterPrefix_split, emitterPrefix_split, List.append_assoc, List.append_assoc, List.cons_append,
      List.cons_append, this]⟩

-- the look-alike identifiers have different keys, and with the repaired prefix target chain 25 is not under target chain 2
example : IdOK ⟨13, addrA, 2, 0⟩ ∧ IdOK ⟨13, addrA, 25, 0⟩ ∧ key ⟨13, addrA, 2, 0⟩ ≠ key ⟨13, addrA, 25, 0⟩ := by decide +kernel
example : ¬ gapPrefix 13 addrA 2 <+: key ⟨13, addrA, 25, 9⟩ := by
  rw [prefix_iff_stream ⟨13, addrA, 2⟩ (by decide) _ (by decide)]; decide

/-- Storing signed VAAs one after the other never panics and reaches the store of the put history. -/
theorem store_history (vs : List Vaa) (hs : ∀ v ∈ vs, v.sigs ≠ []) (st : Store) :
    storeAll st vs = .ok ((putsOf vs).foldl (fun st p => st.put (key p.1) p.2) st) := by
  induction vs generalizing st with
  | nil => rfl
  | cons v vs ih =>
    have hv : ¬ v.sigs.length = 0 := fun e => hs v (List.mem_cons_self ..) (List.length_eq_zero_iff.1 e)
    simp only [storeAll, storeSignedVAA, if_neg hv, putsOf, List.map_cons, List.foldl_cons]
    exact ih (fun w hw => hs w (by simp [hw])) _

/-- An unsigned VAA makes `StoreSignedVAA` panic and nothing is written. -/
theorem store_unsigned_panics (st : Store) (v : Vaa) (h : v.sigs = []) : storeSignedVAA st v = .panic := by
  simp [storeSignedVAA, h]

/-- `StoreSignedVAA` reports success only with the entry written: key of the VAA's identifier, value `Marshal(v)` (what C16's
acknowledgement refers to). -/
theorem store_ok_written (st st' : Store) (v : Vaa) (h : storeSignedVAA st v = .ok st') :
    v.sigs ≠ [] ∧ getSignedVAABytes st' v.body.id = some (marshal v) := by
  unfold storeSignedVAA at h
  split at h
  · cases h  -- no signature: panic
  · next hs =>  -- signed: `st'` is `st` with the entry put
    cases h
    exact ⟨fun e => hs (by rw [e]; rfl), by simp [getSignedVAABytes, get_put]⟩

/-- After ANY history of stores, a lookup returns exactly the bytes stored last under that identifier, and not-found
if nothing was ever stored under it. -/
theorem get_exact (h : List Put) (hok : ∀ p ∈ h, IdOK p.1) (id : VaaId) (hid : IdOK id) :
    getSignedVAABytes (run h) id = lastStored h id :=
  get_run h hok id hid

/-- …in particular an identifier that never occurred is not found, whatever else the store holds. -/
theorem get_absent (h : List Put) (hok : ∀ p ∈ h, IdOK p.1) (id : VaaId) (hid : IdOK id) (habs : ∀ p ∈ h, p.1 ≠ id) :
    getSignedVAABytes (run h) id = none := by
  rw [get_exact h hok id hid]
  cases hl : lastStored h id with
  | none => rfl
  | some b => exact absurd rfl (habs _ (lastStored_some_mem hl))

/-- …and a store under any other identifier does not change what a lookup of `id` returns. -/
theorem get_other_unaffected (h : List Put) (hok : ∀ p ∈ h, IdOK p.1) (p : Put) (hp : IdOK p.1) (id : VaaId) (hid : IdOK id)
    (hne : p.1 ≠ id) : getSignedVAABytes (run (h ++ [p])) id = getSignedVAABytes (run h) id := by
  have hok' : ∀ q ∈ h ++ [p], IdOK q.1 := List.forall_mem_append.2 ⟨hok, List.forall_mem_singleton.2 hp⟩
  rw [get_exact _ hok' id hid, get_exact h hok id hid, lastStored_snoc, if_neg hne]

private theorem putsOf_ok {vs : List Vaa} (hwf : ∀ v ∈ vs, v.WF) : ∀ p ∈ putsOf vs, IdOK p.1 := by
  intro p hp
  obtain ⟨v, hv, rfl⟩ := List.mem_map.1 hp
  exact (hwf v hv).idOK

/-- The bytes of a stored VAA are its encoding, which decodes back to the VAA (C05): a lookup hands back the VAA intact. -/
theorem get_stored_vaa (vs : List Vaa) (hwf : ∀ v ∈ vs, v.WF) (id : VaaId) (hid : IdOK id) (b : Bytes)
    (hg : getSignedVAABytes (run (putsOf vs)) id = some b) : ∃ v ∈ vs, v.body.id = id ∧ b = marshal v ∧ unmarshal b = some v := by
  rw [get_exact _ (putsOf_ok hwf) id hid] at hg
  obtain ⟨v, hv, he⟩ := List.mem_map.1 (lastStored_some_mem hg)
  cases he
  exact ⟨v, hv, rfl, rfl, C05.decode_encode v (hwf v hv)⟩

/-- The gap query on the store of ANY history whose stored bytes decode to a VAA carrying the identifier they are stored under
(the sequence is read from the decoded value, the stream from the key). -/
theorem gap_run (h : List Put) (hok : ∀ p ∈ h, IdOK p.1) (hdec : ∀ p ∈ h, ∃ v, unmarshal p.2 = some v ∧ v.body.id = p.1)
    (s : Stream) (hs : s.addr.length = 32) : findGap (run h) s.ec s.addr s.tc = specGap (streamSeqs h s) := by
  have hscan : ∀ {k b}, (k, b) ∈ (run h).scan (gapPrefix s.ec s.addr s.tc) ↔
      ∃ id, inStream s id = true ∧ k = key id ∧ lastStored h id = some b :=
    mem_scan_run hok fun id hid => prefix_iff_stream s hs id hid
  have hall : ((run h).scan (gapPrefix s.ec s.addr s.tc)).all (fun e => (unmarshal e.2).isSome) = true := by
    rw [List.all_eq_true]
    intro e he
    obtain ⟨id, _, _, hl⟩ := hscan.1 he
    obtain ⟨v, hv, _⟩ := hdec _ (lastStored_some_mem hl)
    rw [hv]; rfl
  rw [findGap_eq, if_pos hall]
  apply specGap_congr
  intro n
  simp only [List.mem_map, List.mem_filterMap, streamSeqs, List.mem_filter]
  constructor
  · rintro ⟨v, ⟨e, he, hv⟩, rfl⟩
    obtain ⟨id, hin, _, hl⟩ := hscan.1 he
    have hm := lastStored_some_mem hl
    obtain ⟨v', hv', hid⟩ := hdec _ hm
    rw [hv] at hv'
    cases hv'
    exact ⟨(id, e.2), ⟨hm, hin⟩, by rw [← hid]; rfl⟩
  · rintro ⟨p, ⟨hp, hin⟩, rfl⟩
    obtain ⟨b, hb⟩ := exists_lastStored_of_mem (List.mem_map.2 ⟨p, hp, rfl⟩)
    obtain ⟨v, hv, hid⟩ := hdec _ (lastStored_some_mem hb)
    exact ⟨v, ⟨(key p.1, b), hscan.2 ⟨p.1, hin, rfl, hb⟩, hv⟩, by rw [← hid]; rfl⟩

/-- The gap query on the store reached by ANY history of stored VAAs answers exactly from the sequences of the queried
stream: `first = 0`, `last` = greatest stored sequence of that stream, `missing` = the sequences up to `last` not stored in
that stream — no entry of any other emitter chain, emitter address or target chain has any influence. -/
theorem gap_spec (vs : List Vaa) (hwf : ∀ v ∈ vs, v.WF) (s : Stream) (hs : s.addr.length = 32) :
    findGap (run (putsOf vs)) s.ec s.addr s.tc = specGap (streamSeqs (putsOf vs) s) := by
  refine gap_run _ (putsOf_ok hwf) ?_ s hs
  intro p hp
  obtain ⟨v, hv, rfl⟩ := List.mem_map.1 hp
  exact ⟨v, C05.decode_encode v (hwf v hv), rfl⟩

/-- What `specGap` says, in the statement's words. -/
theorem specGap_meaning (seqs : List Nat) :
    ∃ m l, specGap seqs = .ok m 0 l ∧ (∀ i, i ∈ m ↔ i ≤ l ∧ i ∉ seqs) ∧ (∀ x ∈ seqs, x ≤ l) ∧ (l = 0 ∨ l ∈ seqs) ∧
      m.Pairwise (· < ·) := by
  refine ⟨_, _, rfl, ?_, (maxSeq_spec seqs).1, (maxSeq_spec seqs).2, ?_⟩
  · intro i
    rw [List.mem_filter, List.mem_range, Nat.lt_succ_iff]
    simp
  · exact List.Pairwise.filter _ List.pairwise_lt_range

/-- Two histories that agree on the VAAs of stream `s` get the same gap answer, whatever else they contain. -/
theorem gap_unaffected (vs ws : List Vaa) (hv : ∀ v ∈ vs, v.WF) (hw : ∀ v ∈ ws, v.WF) (s : Stream) (hs : s.addr.length = 32)
    (h : vs.filter (fun v => inStream s v.body.id) = ws.filter (fun v => inStream s v.body.id)) :
    findGap (run (putsOf vs)) s.ec s.addr s.tc = findGap (run (putsOf ws)) s.ec s.addr s.tc := by
  have hseqs : ∀ us : List Vaa, streamSeqs (putsOf us) s = (us.filter (fun v => inStream s v.body.id)).map (·.body.sequence) := by
    intro us
    rw [streamSeqs, putsOf, List.filter_map, List.map_map]
    rfl
  rw [gap_spec vs hv s hs, gap_spec ws hw s hs, hseqs vs, hseqs ws, h]

/-- The governance batch on the store of ANY history whose identifiers fit the key parser (`uint16` target chain, `uint64`
sequence): the values are never looked into. -/
theorem gov_batch_run (h : List Put) (hok : ∀ p ∈ h, IdOK p.1) (hr : ∀ p ∈ h, p.1.targetChain < 2 ^ 16 ∧ p.1.sequence < 2 ^ 64)
    (ec : Nat) (addr : Bytes) (ha : addr.length = 32) (seqs : List Nat) :
    ∃ out, govBatch (run h) ec addr seqs = some out ∧ ∀ g, g ∈ out ↔ govWanted h ec addr seqs g := by
  have hscan : ∀ {k b}, (k, b) ∈ (run h).scan (govPrefix ec addr) ↔
      ∃ id, (id.emitterChain = ec ∧ id.emitter = addr) ∧ k = key id ∧ lastStored h id = some b :=
    mem_scan_run hok fun id hid => gov_prefix_iff_emitter ec addr ha id hid
  have hent : ∀ {id b}, lastStored h id = some b → govEntry seqs (key id, b) =
      some (if id.sequence ∈ seqs then some ⟨id.targetChain, id.sequence, b⟩ else none) := fun hl =>
    govEntry_key seqs (hr _ (lastStored_some_mem hl)).1 (hr _ (lastStored_some_mem hl)).2
  refine ⟨_, govLoop_eq_filterMap seqs ?_, fun g => ?_⟩
  · rintro ⟨k, b⟩ he
    obtain ⟨id, _, rfl, hl⟩ := hscan.1 he
    rw [hent hl]; rfl
  · rw [List.mem_filterMap]
    constructor
    · rintro ⟨⟨k, b⟩, he, hg⟩
      obtain ⟨id, ⟨hec, haddr⟩, rfl, hl⟩ := hscan.1 he
      rw [hent hl] at hg
      by_cases hc : id.sequence ∈ seqs
      · rw [if_pos hc] at hg
        cases hg
        exact ⟨id, hec, haddr, rfl, rfl, hc, hl⟩
      · rw [if_neg hc] at hg; cases hg
    · rintro ⟨id, hec, haddr, htc, hseq, hmem, hlast⟩
      refine ⟨(key id, g.bytes), hscan.2 ⟨id, ⟨hec, haddr⟩, rfl, hlast⟩, ?_⟩
      rw [hent hlast, if_pos (hseq ▸ hmem), htc, hseq]
      rfl

/-- The governance batch on the store reached by ANY history of stored VAAs returns exactly the entries
`(target chain, sequence, last stored bytes)` of the identifiers of the governance emitter whose sequence was asked for —
nothing of any other emitter chain or address, never an error. -/
theorem gov_batch_spec (vs : List Vaa) (hwf : ∀ v ∈ vs, v.WF) (ec : Nat) (addr : Bytes) (ha : addr.length = 32) (seqs : List Nat) :
    ∃ out, govBatch (run (putsOf vs)) ec addr seqs = some out ∧ ∀ g, g ∈ out ↔ govWanted (putsOf vs) ec addr seqs g := by
  refine gov_batch_run _ (putsOf_ok hwf) ?_ ec addr ha seqs
  intro p hp
  obtain ⟨v, hv, rfl⟩ := List.mem_map.1 hp
  exact ⟨(hwf v hv).targetChain_lt, (hwf v hv).sequence_lt⟩

/-- The executable reference used by the driver lists exactly the wanted entries. -/
theorem specGov_iff (h : List Put) (ec : Nat) (addr : Bytes) (seqs : List Nat) (g : GovEntry) :
    g ∈ specGov h ec addr seqs ↔ govWanted h ec addr seqs g := by
  unfold specGov govWanted
  simp only [List.mem_filterMap, List.mem_filter, List.mem_eraseDups, List.mem_map, Option.map_eq_some_iff,
    Bool.and_eq_true, beq_iff_eq, List.contains_eq_mem, decide_eq_true_eq]
  constructor
  · rintro ⟨id, ⟨_, hc⟩, b, hl, rfl⟩
    exact ⟨id, hc.1.1, hc.1.2, rfl, rfl, hc.2, hl⟩
  · rintro ⟨id, hec, haddr, htc, hseq, hmem, hlast⟩
    exact ⟨id, ⟨⟨(id, g.bytes), lastStored_some_mem hlast, rfl⟩, ⟨hec, haddr⟩, by rw [hseq]; exact hmem⟩, g.bytes, hlast,
      by rw [htc, hseq]⟩

/-- A VAA of another emitter chain or address added anywhere in the history does not change which entries a governance batch holds. -/
theorem gov_unaffected (vs : List Vaa) (w : Vaa) (ec : Nat) (addr : Bytes)
    (hne : ¬ (w.body.emitterChain = ec ∧ w.body.emitter = addr)) (seqs : List Nat) (g : GovEntry) :
    govWanted (putsOf (vs ++ [w])) ec addr seqs g ↔ govWanted (putsOf vs) ec addr seqs g := by
  have hp : putsOf (vs ++ [w]) = putsOf vs ++ [(w.body.id, marshal w)] := by simp [putsOf]
  -- an identifier of the queried emitter is not the one `w` is stored under, so its last stored bytes are the same
  have hl : ∀ id : VaaId, id.emitterChain = ec → id.emitter = addr →
      lastStored (putsOf (vs ++ [w])) id = lastStored (putsOf vs) id := by
    intro id hec haddr
    rw [hp, lastStored_snoc, if_neg]
    rintro rfl
    exact hne ⟨hec, haddr⟩
  unfold govWanted
  exact exists_congr fun id => and_congr_right fun hec => and_congr_right fun haddr => by rw [hl id hec haddr]

/-- `GetSignedVAA` with an in-range identifier and a 64-hex-digit address answers exactly like the local lookup:
the last bytes stored under that identifier, `NotFound` if none. -/
theorem rpc_get_exact (h : List Put) (hok : ∀ p ∈ h, IdOK p.1) (ec tc seq : Nat) (hec : ec < 65536) (htc : tc < 65536)
    (s : List Char) (a : Bytes) (hs : unhexChars s = some a) (ha : a.length = 32) :
    rpcGetSignedVAA (run h) true ec s tc seq =
      match lastStored h ⟨ec, a, tc, seq⟩ with
      | some b => .ok b
      | none => .error .notFound := by
  simp only [rpcGetSignedVAA, decodeEmitterAddress_ok hs ha, narrow16_of_lt hec, narrow16_of_lt htc,
    get_exact h hok ⟨ec, a, tc, seq⟩ ha, Bool.not_true, Bool.false_eq_true, if_false]
  cases lastStored h ⟨ec, a, tc, seq⟩ <;> rfl

/-- `GetNonGovernanceVAABatch` returns, in request order, exactly the requested sequences that are stored in the named stream, each with the last bytes stored. -/
theorem rpc_batch_exact (h : List Put) (hok : ∀ p ∈ h, IdOK p.1) (ec tc : Nat) (hec : ec < 65536) (htc : tc < 65536)
    (s : List Char) (a : Bytes) (hs : unhexChars s = some a) (ha : a.length = 32) (seqs : List Nat) (hn : seqs.length ≤ 20) :
    rpcNonGovBatch (run h) ec s tc seqs =
      .ok (seqs.filterMap fun q => (lastStored h ⟨ec, a, tc, q⟩).map fun b => (q, b)) := by
  have hf : (fun q => (getSignedVAABytes (run h) ⟨ec, a, tc, q⟩).map fun b => (q, b)) =
      (fun q => (lastStored h ⟨ec, a, tc, q⟩).map fun b => (q, b)) := by
    funext q; rw [get_exact h hok ⟨ec, a, tc, q⟩ ha]
  simp only [rpcNonGovBatch, if_neg (Nat.not_lt.2 hn), decodeEmitterAddress_ok hs ha, narrow16_of_lt hec, narrow16_of_lt htc, hf]

/-- The batch lookup entry by entry: every entry carries the bytes stored last under the identifier it names (never bytes of
another identifier, never bytes for an identifier nothing was stored under), and every requested stored identifier has an entry. -/
theorem rpc_batch_entrywise (h : List Put) (hok : ∀ p ∈ h, IdOK p.1) (ec tc : Nat) (hec : ec < 65536) (htc : tc < 65536)
    (s : List Char) (a : Bytes) (hs : unhexChars s = some a) (ha : a.length = 32) (seqs : List Nat) (hn : seqs.length ≤ 20) :
    ∃ out, rpcNonGovBatch (run h) ec s tc seqs = .ok out ∧
      (∀ e ∈ out, e.1 ∈ seqs ∧ lastStored h ⟨ec, a, tc, e.1⟩ = some e.2) ∧
      (∀ q ∈ seqs, ∀ b, lastStored h ⟨ec, a, tc, q⟩ = some b → (q, b) ∈ out) := by
  refine ⟨_, rpc_batch_exact h hok ec tc hec htc s a hs ha seqs hn, ?_, ?_⟩
  · intro e he
    obtain ⟨q, hq, hm⟩ := List.mem_filterMap.1 he
    obtain ⟨b, hl, rfl⟩ := Option.map_eq_some_iff.1 hm
    exact ⟨hq, hl⟩
  · intro q hq b hb
    exact List.mem_filterMap.2 ⟨q, hq, by rw [hb]; rfl⟩

/-- The batch-size guard: more than 20 sequences are refused before anything is looked up. -/
theorem rpc_batch_size_guard (st : Store) (ec tc : Int) (s : List Char) (seqs : List Nat) (hn : seqs.length > 20) :
    rpcNonGovBatch st ec s tc seqs = .error .batchSize ∧ ∀ gc ga, rpcGovBatch st gc ga seqs = .error .batchSize := by
  simp [rpcNonGovBatch, rpcGovBatch, hn]

/-- `PublicrpcServer.GetGovernanceVAABatch` hands back exactly the wanted governance entries. -/
theorem rpc_gov_exact (vs : List Vaa) (hwf : ∀ v ∈ vs, v.WF) (gc : Nat) (ga : Bytes) (ha : ga.length = 32) (seqs : List Nat) (hn : seqs.length ≤ 20) :
    ∃ out, rpcGovBatch (run (putsOf vs)) gc ga seqs = .ok out ∧ ∀ g, g ∈ out ↔ govWanted (putsOf vs) gc ga seqs g := by
  obtain ⟨out, ho, hm⟩ := gov_batch_spec vs hwf gc ga ha seqs
  exact ⟨out, by simp only [rpcGovBatch, if_neg (Nat.not_lt.2 hn), ho], hm⟩

/-- `FindMissingMessages` for an in-range stream given by a 64-hex-digit address reports exactly the missing sequences of that stream (rendered as message ids). -/
theorem fmm_spec (vs : List Vaa) (hwf : ∀ v ∈ vs, v.WF) (ec tc : Nat) (hec : ec < 65536) (htc : tc < 65536)
    (s : List Char) (a : Bytes) (hs : unhexChars s = some a) (ha : a.length = 32) :
    findMissingMessages (run (putsOf vs)) ec s tc =
      match specGap (streamSeqs (putsOf vs) ⟨ec, a, tc⟩) with
      | .ok m f l => .ok ⟨m.map fun v => decChars ec ++ ('/' :: (hexChars a ++ ('/' :: (decChars tc ++ ('/' :: decChars v))))), f, l⟩
      | .err => .error .internal := by
  simp only [findMissingMessages, hs, copyTo32_of_length ha, Nat.mod_eq_of_lt hec, Nat.mod_eq_of_lt htc,
    gap_spec vs hwf ⟨ec, a, tc⟩ ha]
  rfl

/-- The canonical 64-hex-digit rendering of a 32-byte address satisfies the address hypotheses of the RPC theorems. -/
theorem rpc_address_canonical (a : Bytes) (ha : a.length = 32) :
    decodeEmitterAddress (hexChars a) = .ok a :=
  decodeEmitterAddress_ok (unhexChars_hexChars a) ha

/-! ## backfill (`RpcBackfill = true`) -/

/-- What the loop over the missing ids computes, in closed form: as long as no node fails, exactly the served byte strings are
forwarded (in id order, nothing else, nothing twice) and exactly the ids nobody served are reported back. -/
theorem backfill_loop_spec (answer : Nat → NodeAnswer) :
    ∀ (ids : List Nat) (fwd : List Bytes) (unf : List Nat), (∀ i ∈ ids, answer i ≠ .failed) →
      backfillLoop answer ids fwd unf =
        (fwd ++ ids.filterMap (fun i => match answer i with | .served b => some b | _ => none),
         some (unf ++ ids.filter (fun i => answer i = .absent))) := by
  intro ids fwd unf h
  fun_induction backfillLoop answer ids fwd unf with
  | case1 => simp  -- no id left
  | case2 i rest fwd unf b ha ih =>  -- served
    rw [ih fun j hj => h j (List.mem_cons_of_mem _ hj)]
    simp [ha]
  | case3 i rest fwd unf ha ih =>  -- absent
    rw [ih fun j hj => h j (List.mem_cons_of_mem _ hj)]
    simp [ha]
  | case4 i rest fwd unf ha => exact absurd ha (h i (List.mem_cons_self ..))  -- failed

/-- Whatever the nodes answer (failures included): every forwarded byte string was served by a node for one of the ids asked
for; the admin service forwards nothing of its own making. -/
theorem backfill_forwards_only_served (answer : Nat → NodeAnswer) :
    ∀ (ids : List Nat) (fwd : List Bytes) (unf : List Nat) (b : Bytes),
      b ∈ (backfillLoop answer ids fwd unf).1 → b ∈ fwd ∨ ∃ i ∈ ids, answer i = .served b := by
  intro ids fwd unf b
  fun_induction backfillLoop answer ids fwd unf with
  | case1 => exact .inl  -- no id left
  | case2 i rest fwd unf b' ha ih =>  -- served: `b'` joins the forwarded ones
    intro h
    rcases ih h with h1 | ⟨j, hj, hs⟩
    · rcases List.mem_append.1 h1 with h2 | h2
      · exact .inl h2
      · exact .inr ⟨i, List.mem_cons_self .., by rw [ha, List.mem_singleton.1 h2]⟩
    · exact .inr ⟨j, List.mem_cons_of_mem _ hj, hs⟩
  | case3 i rest fwd unf ha ih =>  -- absent
    intro h
    rcases ih h with h1 | ⟨j, hj, hs⟩
    · exact .inl h1
    · exact .inr ⟨j, List.mem_cons_of_mem _ hj, hs⟩
  | case4 => exact .inl  -- failed: the loop stops with what was forwarded so far

/-- **Backfill for an in-range stream.** The ids requested are exactly the missing sequences of that stream (`specGap`), every
forwarded VAA was served for one of them, and — when no node fails — the reply lists exactly the missing sequences nobody
served. The store is not an output of the call: the admin service only forwards (to the processor's verified inbound path). -/
theorem fmm_backfill_spec (vs : List Vaa) (hwf : ∀ v ∈ vs, v.WF) (ec tc : Nat) (hec : ec < 65536) (htc : tc < 65536)
    (s : List Char) (a : Bytes) (hs : unhexChars s = some a) (ha : a.length = 32) (answer : Nat → NodeAnswer) :
    match specGap (streamSeqs (putsOf vs) ⟨ec, a, tc⟩) with
    | .ok m f l =>
      (∀ b ∈ (findMissingBackfill (run (putsOf vs)) ec s tc answer).forwarded, ∃ i ∈ m, answer i = .served b) ∧
      ((∀ i ∈ m, answer i ≠ .failed) →
        (findMissingBackfill (run (putsOf vs)) ec s tc answer).forwarded =
            m.filterMap (fun i => match answer i with | .served b => some b | _ => none) ∧
        (findMissingBackfill (run (putsOf vs)) ec s tc answer).result =
          .ok ⟨(m.filter (fun i => answer i = .absent)).map fun v =>
            decChars ec ++ ('/' :: (hexChars a ++ ('/' :: (decChars tc ++ ('/' :: decChars v))))), f, l⟩)
    | .err => (findMissingBackfill (run (putsOf vs)) ec s tc answer).forwarded = [] := by
  simp only [findMissingBackfill, hs, copyTo32_of_length ha, Nat.mod_eq_of_lt hec, Nat.mod_eq_of_lt htc,
    gap_spec vs hwf ⟨ec, a, tc⟩ ha]
  cases hg : specGap (streamSeqs (putsOf vs) ⟨ec, a, tc⟩) with
  | err => rfl
  | ok m f l =>
    simp only
    constructor
    · intro b hb
      -- with or without a report, `.forwarded` is the first component of the loop's result
      have hfwd : b ∈ (backfillLoop answer m [] []).1 := by
        rcases hl : backfillLoop answer m [] [] with ⟨fwd, _ | r⟩ <;> rw [hl] at hb <;> exact hb
      exact (backfill_forwards_only_served answer m [] [] b hfwd).resolve_left List.not_mem_nil
    · intro hnf
      rw [backfill_loop_spec answer m [] [] hnf]
      exact ⟨rfl, rfl⟩

/-- With no node able to serve anything the call degenerates to the plain gap report. -/
theorem backfill_nothing_served (st : Store) (ec tc : Nat) (s : List Char) :
    (findMissingBackfill st ec s tc (fun _ => .absent)).forwarded = [] ∧
    (findMissingBackfill st ec s tc (fun _ => .absent)).result = findMissingMessages st ec s tc := by
  unfold findMissingBackfill findMissingMessages
  cases unhexChars s with
  | none => exact ⟨rfl, rfl⟩
  | some b =>
    simp only
    cases findGap st (ec % 65536) (copyTo32 b) (tc % 65536) with
    | err => exact ⟨rfl, rfl⟩
    | ok ids f l =>
      simp only
      -- no id is served and every id is absent: the `filterMap` of the forwarded is empty, the `filter` of the unfilled keeps all
      have hall : ids.filter (fun _ => true) = ids := List.filter_eq_self.2 fun _ _ => rfl
      rw [backfill_loop_spec _ ids [] [] (by intro i _ h; cases h)]
      simp [hall]

/-! ## what a *successful* answer commits to (error paths in the middle of a scan / a batch) -/

/-- A stored value of the scanned stream that `vaa.Unmarshal` rejects (an empty payload, a version other than 1) makes the gap
query fail as a whole: the pinned code makes no statement about such a stream - in particular no wrong one. -/
theorem gap_err_of_undecodable (st : Store) (ec : Nat) (addr : Bytes) (tc : Nat) (e : Key × Bytes)
    (he : e ∈ st.scan (gapPrefix ec addr tc)) (hu : unmarshal e.2 = none) : findGap st ec addr tc = .err := by
  have hall : ¬ (st.scan (gapPrefix ec addr tc)).all (fun e => (unmarshal e.2).isSome) = true := fun h => by
    have := List.all_eq_true.1 h e he
    rw [hu] at this; cases this
  rw [findGap_eq, if_neg hall]

/-- Conversely a gap query that answers has decoded EVERY stored value of the stream (so none was skipped: the sequences it
reports on are those of all the scanned records). -/
theorem gap_ok_all_decode (st : Store) (ec : Nat) (addr : Bytes) (tc : Nat) (m : List Nat) (f l : Nat)
    (h : findGap st ec addr tc = .ok m f l) :
    (∀ e ∈ st.scan (gapPrefix ec addr tc), (unmarshal e.2).isSome) ∧
    ∃ vs, decodeAll (st.scan (gapPrefix ec addr tc)) = some vs ∧ vs.length = (st.scan (gapPrefix ec addr tc)).length ∧
      GapRes.ok m f l = specGap (vs.map (·.body.sequence)) := by
  by_cases hall : (st.scan (gapPrefix ec addr tc)).all (fun e => (unmarshal e.2).isSome) = true
  · rw [findGap_eq, if_pos hall] at h
    rw [decodeAll_eq, if_pos hall]
    have hall' := List.all_eq_true.1 hall
    exact ⟨hall', _, rfl, List.filterMap_length_eq_length.2 hall', h.symm⟩
  · rw [findGap_eq, if_neg hall] at h
    cases h

/-- A node answering with a status other than 200 / 404 for one of the ids fails the whole call: no report is given (and what
was served for the ids before it has been forwarded). -/
theorem backfill_failure_aborts (answer : Nat → NodeAnswer) (ids : List Nat) (fwd : List Bytes) (unf : List Nat)
    (h : ∃ i ∈ ids, answer i = .failed) : (backfillLoop answer ids fwd unf).2 = none := by
  obtain ⟨i, hi, hf⟩ := h
  fun_induction backfillLoop answer ids fwd unf with
  | case1 => cases hi  -- no id left
  | case2 j rest fwd unf b ha ih =>  -- served, so `i` is further down
    exact ih ((List.mem_cons.1 hi).resolve_left fun e => by rw [e, ha] at hf; cases hf)
  | case3 j rest fwd unf ha ih =>  -- absent, likewise
    exact ih ((List.mem_cons.1 hi).resolve_left fun e => by rw [e, ha] at hf; cases hf)
  | case4 => rfl  -- failed

/-- **A backfill call that succeeds reports every missing sequence nobody served.** If the loop over the missing ids ends
with a report (`some r`), no node failed for any id, every served byte string was forwarded, and the report is exactly the
ids that were not served - none of them can have vanished. Contrapositive: a node failing for one id in the middle of a batch
fails the call (`backfill_failure_aborts`). -/
theorem backfill_ok_reports_every_unserved (answer : Nat → NodeAnswer) :
    ∀ (ids : List Nat) (fwd : List Bytes) (unf : List Nat) (f : List Bytes) (r : List Nat),
      backfillLoop answer ids fwd unf = (f, some r) →
        (∀ i ∈ ids, answer i ≠ .failed) ∧
        r = unf ++ ids.filter (fun i => match answer i with | .served _ => false | _ => true) ∧
        f = fwd ++ ids.filterMap (fun i => match answer i with | .served b => some b | _ => none) := by
  intro ids fwd unf f r h
  have hnf : ∀ i ∈ ids, answer i ≠ .failed := fun i hi hf => by
    have := backfill_failure_aborts answer ids fwd unf ⟨i, hi, hf⟩
    rw [h] at this; cases this
  rw [backfill_loop_spec answer ids fwd unf hnf] at h
  obtain ⟨rfl, hr⟩ := Prod.mk.inj h
  refine ⟨hnf, ?_, rfl⟩
  rw [← Option.some.inj hr]
  congr 1
  apply List.filter_congr
  intro i hi
  cases ha : answer i with
  | served b => simp
  | absent => simp
  | failed => exact absurd ha (hnf i hi)

/-- The same at the level of the admin call: whenever `FindMissingMessages` with backfill answers, its report lists (as message
ids) exactly the sequences `FindEmitterSequenceGap` found missing that no node served. -/
theorem fmm_backfill_ok_report (st : Store) (ec tc : Nat) (s : List Char) (answer : Nat → NodeAnswer) (rep : FmmRes)
    (h : (findMissingBackfill st ec s tc answer).result = .ok rep) :
    ∃ a ids f l, unhexChars s = some a ∧ findGap st (ec % 65536) (copyTo32 a) (tc % 65536) = .ok ids f l ∧
      (∀ i ∈ ids, answer i ≠ .failed) ∧ rep.first = f ∧ rep.last = l ∧
      rep.missing = (ids.filter (fun i => match answer i with | .served _ => false | _ => true)).map fun v =>
        decChars ec ++ ('/' :: (hexChars (copyTo32 a) ++ ('/' :: (decChars tc ++ ('/' :: decChars v))))) := by
  unfold findMissingBackfill at h
  split at h
  · cases h  -- the address is not hex
  · next a hs =>
    dsimp only at h
    split at h
    · cases h  -- the gap query failed
    · next ids f l hg =>
      split at h
      · cases h  -- a node failed
      · next fw r hl =>
        obtain ⟨h1, h2, _⟩ := backfill_ok_reports_every_unserved answer ids [] [] fw r hl
        cases h
        exact ⟨a, ids, f, l, hs, hg, h1, rfl, rfl, by rw [h2]; rfl⟩

/-! ## reads that fail under the running server (closed handle, unreadable record) -/

/-- With every read succeeding the fallible handlers ARE the handlers of the theorems above. -/
theorem rpc_at_all_readable (rd : Readable) (hrd : ∀ id, rd id = true) (st : Store) (ec tc : Int) (s : List Char) (seq : Nat) (seqs : List Nat) (hasId : Bool) :
    rpcGetSignedVAAAt rd st hasId ec s tc seq = rpcGetSignedVAA st hasId ec s tc seq ∧
    rpcNonGovBatchAt rd st ec s tc seqs = rpcNonGovBatch st ec s tc seqs := by
  constructor
  · unfold rpcGetSignedVAAAt rpcGetSignedVAA getAt
    cases decodeEmitterAddress s with
    | error e => rfl
    | ok a =>
      simp only [hrd, if_true]
      cases getSignedVAABytes st _ <;> rfl
  · unfold rpcNonGovBatchAt rpcNonGovBatch
    by_cases hn : seqs.length > 20
    · simp [hn]
    · simp only [hn, if_false]
      cases decodeEmitterAddress s with
      | error e => rfl
      | ok a => exact (batchLoopAt_eq rd st _ seqs).trans (if_pos (List.all_eq_true.2 fun q _ => hrd _))

/-- "A call that answers OK is stream-exact", whatever reads failed: a batch that is answered without an error was answered from
reads that all succeeded, and is the answer of the readable store — `rpc_batch_exact` / `rpc_batch_entrywise` apply to it. An
unreadable record can only turn the answer into an error, never into a shorter list. -/
theorem rpc_batch_at_ok_exact (rd : Readable) (st : Store) (ec tc : Int) (s : List Char) (seqs : List Nat) (out : List (Nat × Bytes))
    (h : rpcNonGovBatchAt rd st ec s tc seqs = .ok out) :
    rpcNonGovBatch st ec s tc seqs = .ok out ∧
    ∃ a, decodeEmitterAddress s = .ok a ∧ ∀ q ∈ seqs, rd ⟨narrow16 ec, a, narrow16 tc, q⟩ = true := by
  unfold rpcNonGovBatchAt at h
  unfold rpcNonGovBatch
  by_cases hn : seqs.length > 20
  · simp [hn] at h
  · simp only [hn, if_false] at h ⊢
    cases hd : decodeEmitterAddress s with
    | error e => rw [hd] at h; cases h
    | ok a =>
      rw [hd] at h
      simp only [batchLoopAt_eq] at h
      split at h
      · next hr => exact ⟨h, a, rfl, List.all_eq_true.1 hr⟩
      · cases h

/-- A well-formed batch that names an identifier whose read fails is answered with `Internal` (the pinned behaviour: an error makes
no statement about the stream). -/
theorem rpc_batch_at_unreadable_fails (rd : Readable) (st : Store) (ec tc : Int) (s : List Char) (a : Bytes) (seqs : List Nat)
    (hn : seqs.length ≤ 20) (hd : decodeEmitterAddress s = .ok a) (q : Nat) (hq : q ∈ seqs) (hu : rd ⟨narrow16 ec, a, narrow16 tc, q⟩ = false) :
    rpcNonGovBatchAt rd st ec s tc seqs = .error .internal := by
  have hn' : ¬ seqs.length > 20 := by omega
  unfold rpcNonGovBatchAt
  simp only [hn', if_false, hd]
  rw [batchLoopAt_eq, if_neg]
  intro hall
  have := List.all_eq_true.1 hall q hq
  rw [hu] at this
  cases this

/-- The single lookup: an OK answer is the readable store's answer, and so is `NotFound`; a failing read gives `Internal`. -/
theorem rpc_get_at_exact (rd : Readable) (st : Store) (ec tc : Int) (s : List Char) (seq : Nat) (hasId : Bool) :
    (∀ b, rpcGetSignedVAAAt rd st hasId ec s tc seq = .ok b → rpcGetSignedVAA st hasId ec s tc seq = .ok b) ∧
    (rpcGetSignedVAAAt rd st hasId ec s tc seq = .error .notFound → rpcGetSignedVAA st hasId ec s tc seq = .error .notFound) := by
  unfold rpcGetSignedVAAAt rpcGetSignedVAA getAt
  cases hasId
  · exact ⟨fun _ h => h, fun h => h⟩  -- no message id: both handlers refuse alike
  · simp only [Bool.not_true, Bool.false_eq_true, if_false]
    cases decodeEmitterAddress s with
    | error e => exact ⟨fun _ h => h, fun h => h⟩
    | ok a =>
      simp only
      cases rd ⟨narrow16 ec, a, narrow16 tc, seq⟩
      · exact ⟨nofun, nofun⟩  -- the read fails: the answer is `Internal`, neither `.ok` nor `NotFound`
      · cases getSignedVAABytes st ⟨narrow16 ec, a, narrow16 tc, seq⟩ <;> exact ⟨fun _ h => h, fun h => h⟩

-- core has no `DecidableEq (Except ε α)`; with it the kernel compares the closed answers of the handlers below
local instance {ε α : Type} [DecidableEq ε] [DecidableEq α] : DecidableEq (Except ε α)
  | .ok a, .ok b => decidable_of_iff (a = b) ⟨congrArg _, Except.ok.inj⟩
  | .error a, .error b => decidable_of_iff (a = b) ⟨congrArg _, Except.error.inj⟩
  | .ok _, .error _ => isFalse nofun
  | .error _, .ok _ => isFalse nofun

/-- Why every lookup error but not-found has to fail the batch: the variant that skips them all answers a stream that holds
sequences 7 and 9 with the empty list once the store cannot be read — an OK answer that is not the stream's. -/
theorem rpc_batch_skip_errors_witness :
    ∃ (st : Store) (mk : Nat → VaaId), batchLoopAt (fun _ => true) st mk [7, 8, 9] = .ok [(7, [1]), (9, [2])] ∧
      batchLoopSkip (fun _ => false) st mk [7, 8, 9] = [] ∧ batchLoopAt (fun _ => false) st mk [7, 8, 9] = .error .internal :=
  ⟨[(key ⟨2, [], 4, 7⟩, [1]), (key ⟨2, [], 4, 9⟩, [2])], fun q => ⟨2, [], 4, q⟩,
    by decide +kernel, by decide +kernel, by decide +kernel⟩

-- non-vacuity of the fallible handlers: a store with sequences 7 and 9 of one stream, the read of sequence 8 failing.
-- Each example meets the hypotheses of the theorem it applies (the first two restate the evaluated facts the others use).
private def tinyStore : Store := [(key ⟨2, List.replicate 32 0, 4, 7⟩, [1]), (key ⟨2, List.replicate 32 0, 4, 9⟩, [2])]
private def zeroHex : List Char := List.replicate 64 '0'
private theorem zeroHex_ok : decodeEmitterAddress zeroHex = .ok (List.replicate 32 0) := by decide +kernel
private theorem tinyStore_batch :
    rpcNonGovBatchAt (fun id => id.sequence != 8) tinyStore 2 zeroHex 4 [7, 9] = .ok [(7, [1]), (9, [2])] := by decide +kernel

example : decodeEmitterAddress zeroHex = .ok (List.replicate 32 0) := zeroHex_ok
example : rpcNonGovBatchAt (fun id => id.sequence != 8) tinyStore 2 zeroHex 4 [7, 9] = .ok [(7, [1]), (9, [2])] := tinyStore_batch
example : rpcNonGovBatch tinyStore 2 zeroHex 4 [7, 9] = .ok [(7, [1]), (9, [2])] :=
  (rpc_batch_at_ok_exact (fun id => id.sequence != 8) tinyStore 2 4 zeroHex [7, 9] _ tinyStore_batch).1
example : rpcNonGovBatchAt (fun id => id.sequence != 8) tinyStore 2 zeroHex 4 [7, 8, 9] = .error .internal :=
  rpc_batch_at_unreadable_fails _ tinyStore 2 4 zeroHex (List.replicate 32 0) [7, 8, 9] (by decide) zeroHex_ok 8 (by decide) rfl
example : rpcGetSignedVAAAt (fun _ => false) tinyStore true 2 zeroHex 4 7 = .error .internal := by decide +kernel
example : rpcGetSignedVAAAt (fun id => id.sequence != 8) tinyStore true 2 zeroHex 4 7 = .ok [1] ∧
    rpcGetSignedVAA tinyStore true 2 zeroHex 4 7 = .ok [1] :=
  have h : rpcGetSignedVAAAt (fun id => id.sequence != 8) tinyStore true 2 zeroHex 4 7 = .ok [1] := by decide +kernel
  ⟨h, (rpc_get_at_exact (fun id => id.sequence != 8) tinyStore 2 4 zeroHex 7 true).1 _ h⟩
example : (rpcGetSignedVAAAt (fun _ => true) tinyStore true 2 zeroHex 4 8 = rpcGetSignedVAA tinyStore true 2 zeroHex 4 8) :=
  (rpc_at_all_readable (fun _ => true) (fun _ => rfl) tinyStore 2 4 zeroHex 8 [] true).1

/-! ## non-vacuity: a concrete store with look-alike target chains 2 / 25 and an overwrite -/

private def mk (tc seq : Nat) (pl : Bytes) : Vaa :=
  { version := 1, gsIndex := 0, sigs := [⟨0, List.replicate 65 3⟩],
    body := { ts := 1, nonce := 2, emitterChain := 13, targetChain := tc, emitter := addrA, sequence := seq, consistency := 1, payload := pl } }

private def hist : List Vaa := [mk 2 0 [1], mk 25 7 [2], mk 2 3 [3], mk 255 9 [4], mk 2 3 [5]]

private theorem hist_wf : ∀ v ∈ hist, v.WF := by decide +kernel
private theorem hist_ok : ∀ p ∈ putsOf hist, IdOK p.1 := putsOf_ok hist_wf

-- the hypotheses of the theorems above hold of this history, and the answers they give are the expected ones
example : ∀ v ∈ hist, v.WF := hist_wf
example : ∀ v ∈ hist, v.sigs ≠ [] := by decide
example : ∀ p ∈ putsOf hist, IdOK p.1 := hist_ok
example : streamSeqs (putsOf hist) ⟨13, addrA, 2⟩ = [0, 3, 3] := by decide
example : findGap (run (putsOf hist)) 13 addrA 2 = .ok [1, 2] 0 3 := by
  rw [gap_spec hist hist_wf ⟨13, addrA, 2⟩ (by decide)]; decide +kernel
example : getSignedVAABytes (run (putsOf hist)) ⟨13, addrA, 2, 3⟩ = some (marshal (mk 2 3 [5])) := by
  rw [get_exact _ hist_ok _ (by decide)]; decide +kernel
example : getSignedVAABytes (run (putsOf hist)) ⟨13, addrA, 25, 3⟩ = none :=
  get_absent _ hist_ok _ (by decide) (by decide +kernel)
example : govWanted (putsOf hist) 13 addrA [3, 9] ⟨255, 9, marshal (mk 255 9 [4])⟩ :=
  ⟨⟨13, addrA, 255, 9⟩, rfl, rfl, rfl, rfl, by decide, by decide +kernel⟩
example : unhexChars (hexChars addrA) = some addrA ∧ addrA.length = 32 := ⟨unhexChars_hexChars _, by decide⟩
example : storeAll [] hist = .ok (run (putsOf hist)) := store_history hist (by decide) []
example : ∃ out, govBatch (run (putsOf hist)) 13 addrA [3, 9] = some out ∧ ∀ g, g ∈ out ↔ govWanted (putsOf hist) 13 addrA [3, 9] g :=
  gov_batch_spec hist hist_wf 13 addrA (by decide) [3, 9]
example : rpcGetSignedVAA (run (putsOf hist)) true ((13 : Nat) : Int) (hexChars addrA) ((25 : Nat) : Int) 7 = .ok (marshal (mk 25 7 [2])) := by
  rw [rpc_get_exact _ hist_ok 13 25 7 (by decide) (by decide) _ addrA (unhexChars_hexChars _) (by decide)]; rfl
example : (findMissingMessages (run (putsOf hist)) 13 (hexChars addrA) 2).toOption.map (fun r => (r.missing.length, r.first, r.last)) = some (2, 0, 3) := by
  rw [fmm_spec hist hist_wf 13 2 (by decide) (by decide) _ addrA (unhexChars_hexChars _) (by decide)]; decide +kernel
example : findGap (run (putsOf hist)) 13 addrA 2 = findGap (run (putsOf [mk 2 0 [1], mk 2 3 [3], mk 2 3 [5]])) 13 addrA 2 :=
  gap_unaffected _ _ hist_wf (by decide +kernel) ⟨13, addrA, 2⟩ (by decide) (by decide +kernel)
example : backfillLoop (fun i => if i = 1 then .served [9, 9] else .absent) [1, 2] [] [] = ([[9, 9]], some [2]) := by decide
example : backfillLoop (fun i => if i = 1 then .served [9, 9] else .failed) [1, 2, 3] [] [] = ([[9, 9]], none) := by decide
-- the hypothesis of `backfill_failure_aborts` can be met (a node failing for the middle one of three ids); with no failure
-- the declined ids 2 and 3 are both reported
example : ∃ i ∈ [1, 2, 3], (fun i => if i = 2 then NodeAnswer.failed else .absent) i = .failed := ⟨2, by decide, rfl⟩
example : backfillLoop (fun i => if i = 1 then .served [9, 9] else .absent) [1, 2, 3] [] [] = ([[9, 9]], some [2, 3]) := by decide
-- a stream whose highest sequence (3) is an empty-payload VAA: Marshal writes it, Unmarshal rejects it, the gap query fails
private def emptyTop : List Put := putsOf [mk 2 0 [1], mk 2 3 []]
private theorem emptyTop_undecodable : unmarshal (marshal (mk 2 3 [])) = none := by decide +kernel
private theorem emptyTop_scanned : (key ⟨13, addrA, 2, 3⟩, marshal (mk 2 3 [])) ∈ (run emptyTop).scan (gapPrefix 13 addrA 2) :=
  (mem_scan_run (by decide) fun id hid => prefix_iff_stream ⟨13, addrA, 2⟩ (by decide) id hid).2
    ⟨⟨13, addrA, 2, 3⟩, by decide, rfl, by decide +kernel⟩
example : findGap (run emptyTop) 13 addrA 2 = .err :=
  gap_err_of_undecodable _ 13 addrA 2 (key ⟨13, addrA, 2, 3⟩, marshal (mk 2 3 [])) emptyTop_scanned emptyTop_undecodable
example : findGap (run (putsOf hist)) 13 addrA 2 = .ok [1, 2] 0 3 := by
  rw [gap_spec hist hist_wf ⟨13, addrA, 2⟩ (by decide)]; decide +kernel
example : ∃ out, rpcNonGovBatch (run (putsOf hist)) ((13 : Nat) : Int) (hexChars addrA) ((2 : Nat) : Int) [3, 1, 0] = .ok out ∧
    (∀ e ∈ out, e.1 ∈ [3, 1, 0] ∧ lastStored (putsOf hist) ⟨13, addrA, 2, e.1⟩ = some e.2) ∧
    (∀ q ∈ [3, 1, 0], ∀ b, lastStored (putsOf hist) ⟨13, addrA, 2, q⟩ = some b → (q, b) ∈ out) :=
  rpc_batch_entrywise _ hist_ok 13 2 (by decide) (by decide) _ addrA (unhexChars_hexChars _) (by decide) [3, 1, 0] (by decide)

end Whv.C12
