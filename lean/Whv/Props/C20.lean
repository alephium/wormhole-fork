import Whv.Lemmas.Spy
/-!
# C20 — spy subscribers receive exactly the VAAs matching their filters, independently

Model: `Whv/Model/Spy.lean` follows `node/cmd/spy/spy.go`: `sends` is `Publish` with the `fix:` of its early return, the
transition system keeps the pinned locking.  The statement has two halves: **delivery**, which holds, and **isolation**,
which fails on the pinned code (`Publish` holds `subsMu` across a blocking channel send).  The
theorem for the delivery half therefore carries the suffix `_partial`.
-/
namespace Whv.C20
open Whv Whv.Spy

/-- A subscription is sent the VAA at least once iff it matches (no filters, or some filter with equal chain and address). -/
theorem c20_copies_pos_iff (fs : List Filter) (c : Nat) (a : Bytes) : 0 < copies fs c a ↔ subMatches fs c a = true := by
  rw [copies_eq_count, subMatches]
  cases fs with
  | nil => simp
  | cons f rest =>
    simp only [List.isEmpty_cons, Bool.false_eq_true, if_false, Bool.false_or, List.count_pos_iff, List.any_eq_true,
      hit_eq_beq, beq_iff_eq, exists_eq_right]

/-- With pairwise distinct filters at most one filter matches a given VAA: **each matching subscriber is sent
the VAA exactly once**.  (With a repeated filter the code sends it once per repetition.) -/
theorem c20_copies_le_one (fs : List Filter) (c : Nat) (a : Bytes) (hnd : fs.Nodup) : copies fs c a ≤ 1 := by
  rw [copies_eq_count, hnd.count]
  split
  · exact Nat.le_refl 1
  · split
    · exact Nat.le_refl 1
    · exact Nat.zero_le 1

/-- and with a repeated matching filter it is not once: the model (like the code) sends two copies. -/
example : copies [⟨2, [7]⟩, ⟨2, [7]⟩] 2 [7] = 2 := by decide +kernel

/-- **Delivery set.** For a decodable VAA and any iteration order of the map (`subs`, distinct ids), `Publish`
returns no error and the number of channel sends to each subscription is `copies` of its filters — so exactly the
matching subscriptions are served (`c20_copies_pos_iff`), once each when filters are distinct. -/
theorem c20_delivery_set_partial (c : Nat) (a : Bytes) (subs : List (SubId × List Filter))
    (hnd : (subs.map (·.1)).Nodup) :
    (sends (some (c, a)) subs).2 = false ∧
    (∀ id fs, (id, fs) ∈ subs → (sends (some (c, a)) subs).1.count id = copies fs c a) ∧
    (∀ id, id ∉ subs.map (·.1) → (sends (some (c, a)) subs).1.count id = 0) := by
  induction subs with
  | nil => simp [sends]
  | cons p rest ih =>
    obtain ⟨pid, pfs⟩ := p
    obtain ⟨hpid, hnd⟩ := List.nodup_cons.1 hnd
    obtain ⟨ih1, ih2, ih3⟩ := ih hnd
    rw [sends_some_cons]
    simp only [List.count_append, List.count_replicate]
    refine ⟨ih1, fun id fs hm => ?_, fun id hid => ?_⟩
    · rcases List.mem_cons.1 hm with e | hm
      · cases e
        simp [ih3 pid hpid]
      · have hne : pid ≠ id := fun e => hpid (e ▸ List.mem_map_of_mem (f := (·.1)) hm)
        simp [hne, ih2 id fs hm]
    · obtain ⟨hne, hid⟩ := not_or.1 (mt List.mem_cons.2 hid)
      simp [Ne.symm hne, ih3 id hid]

/-- What the code does with an **undecodable** VAA (e.g. what `Marshal` writes for an empty payload): it returns an error
iff some subscription has filters, and it serves exactly the subscriptions without filters, once each, whatever the map
order. -/
theorem c20_undecodable (subs : List (SubId × List Filter)) :
    (sends none subs).1 = (subs.filter (·.2.isEmpty)).map (·.1) ∧
    (sends none subs).2 = subs.any (fun p => !p.2.isEmpty) := by
  induction subs with
  | nil => simp [sends]
  | cons p rest ih =>
    obtain ⟨pid, pfs⟩ := p
    by_cases he : pfs.isEmpty = true
    · simp [sends, he, ih.1, ih.2]
    · simp [sends, he, ih.1]

/-- The statement's first sentence for subscribers **without filters** needs no decoding: whatever `vaa.Unmarshal` makes of
the published bytes, one `Publish` sends exactly one copy to every filter-less subscription (distinct ids = map keys). -/
theorem c20_unfiltered_always_served (d : Decoded) (subs : List (SubId × List Filter))
    (hnd : (subs.map (·.1)).Nodup) (id : SubId) (h : (id, []) ∈ subs) :
    (sends d subs).1.count id = 1 := by
  cases d with
  | some ca => exact (c20_delivery_set_partial ca.1 ca.2 subs hnd).2.1 id [] h
  | none =>
    -- the served ids are a sublist of the (distinct) ids, and `id` is among them
    rw [(c20_undecodable subs).1, (hnd.sublist (List.filter_sublist.map _)).count,
      if_pos (List.mem_map.2 ⟨(id, []), List.mem_filter.2 ⟨h, rfl⟩, rfl⟩)]

example : (sends none [(0, [⟨1, [7]⟩]), (1, []), (2, [⟨2, [8]⟩]), (3, [])]) = ([1, 3], true) := by decide +kernel

/-- channel sends the publisher still has to do -/
def pending (s : State) : List (SubId × Bytes) :=
  match s.pub with
  | .idle => []
  | .sending v todo => todo.map (·, v)

/-- the channel sends a step decides on: those of a `Publish` at its start (with the subscriptions present then) -/
def contrib (s : State) : Step → List (SubId × Bytes)
  | .pubStart v d order => (sends d (ordered s.subs order)).1.map (·, v)
  | _ => []

/-- `contrib` summed over a trace; it stops at a step that is not enabled (it is only used under `exec s tr = some s'`) -/
def planned : State → List Step → List (SubId × Bytes)
  | _, [] => []
  | s, st :: rest =>
    match step s st with
    | none => []
    | some s' => contrib s st ++ planned s' rest

private theorem step_log (s s' : State) (st : Step) (h : step s st = some s') :
    s'.log ++ pending s' = s.log ++ pending s ++ contrib s st := by
  cases trans_of_step h with
  | pubStart v d order _ hp => simp [pending, hp, contrib]
  | pubSend hp => simp [pending, hp, contrib]
  | pubEnd hp => simp [pending, hp, contrib]
  | _ => simp [pending, contrib]  -- the other steps touch neither `pub` nor `log`

/-- **Every history**: what has been sent on subscription channels plus what the running `Publish` still has to
send equals what the `Publish` calls of the history decided at their start — nothing else is ever sent, nothing
is dropped, order is kept.  In particular (`c20_returned_publishes_exact`) when no `Publish` is running, the
sends performed are exactly the planned ones. -/
theorem c20_log_exact (tr : List Step) : ∀ (s s' : State), exec s tr = some s' →
    s'.log ++ pending s' = s.log ++ pending s ++ planned s tr := by
  induction tr with
  | nil =>
    intro s s' h
    cases h
    simp [planned]
  | cons st rest ih =>
    intro s s' h
    obtain ⟨s1, hs, h⟩ := exec_cons h
    rw [ih s1 s' h, step_log s s1 st hs]
    simp only [planned, hs, List.append_assoc]

theorem c20_returned_publishes_exact (tr : List Step) (s s' : State) (h : exec s tr = some s')
    (hi : s.pub = .idle) (hi' : s'.pub = .idle) : s'.log = s.log ++ planned s tr := by
  simpa [pending, hi, hi'] using c20_log_exact tr s s' h

/-- A send needs nothing but a free slot: with the one-slot channel of the pinned code, a subscriber that has read
everything (empty channel) and is leaving — woken on `ctx.Done()`, not yet removed — does **not** make `Publish` wait:
the send is enabled whatever its handler is doing.  (With an unbuffered channel it would not be; the harness checks
this window on the real code, clause `departing-subscriber-blocks-publish`.) -/
theorem c20_send_enabled_of_room (s : State) (v : Bytes) (id : SubId) (rest : List SubId) (sub : Sub)
    (hp : s.pub = .sending v (id :: rest)) (hf : findSub s.subs id = some sub) (hroom : sub.queue.length < chanCap) :
    (step s .pubSend).isSome := by
  simp [step, hp, hf, hroom]

/-- A handler that is in its `select` frees the channel with at most one receive. -/
private theorem recv_unblocks {s : State} {v : Bytes} {rest : List SubId} {sub : Sub}
    (hp : s.pub = .sending v (sub.id :: rest)) (hf : findSub s.subs sub.id = some sub)
    (hq : sub.queue.length ≤ chanCap) (hr : sub.reader = .selecting) :
    ∃ tr s', (∀ st ∈ tr, st = .recv sub.id) ∧ tr.length ≤ 1 ∧ exec s tr = some s' ∧ (step s' .pubSend).isSome := by
  cases hq' : sub.queue with
  | nil =>
    exact ⟨[], s, nofun, Nat.zero_le _, rfl, c20_send_enabled_of_room s v _ rest sub hp hf (hq' ▸ Nat.zero_lt_one)⟩
  | cons m q =>
    -- the channel holds one message
    rw [hq'] at hq
    have hq0 : q = [] := List.eq_nil_of_length_eq_zero (Nat.le_zero.1 (Nat.le_of_succ_le_succ hq))
    have hf' := findSub_setSub_self (s' := { sub with queue := q, reader := .sending m }) hf
    exact ⟨[.recv sub.id], { s with subs := setSub s.subs _ }, fun _ h => List.mem_singleton.1 h, Nat.le_refl _,
      by simp only [exec, step, hf, hr, hq'], c20_send_enabled_of_room _ v _ rest _ hp hf' (hq0 ▸ Nat.zero_lt_one)⟩

/-- **A send waits only for a subscriber that does not read.** If `Publish` is about to send to subscription
`id` whose handler has not left, then after at most two steps of that subscriber's own reader (`resp.Send`
returning, the next receive from the channel) the send is enabled.  So in every history in which all
subscribers keep reading, every `Publish` runs to completion, and by `c20_returned_publishes_exact` /
`c20_delivery_set_partial` it has then served exactly the matching subscriptions. -/
theorem c20_reader_unblocks (s : State) (v : Bytes) (id : SubId) (rest : List SubId) (sub : Sub)
    (hp : s.pub = .sending v (id :: rest)) (hf : findSub s.subs id = some sub)
    (hq : sub.queue.length ≤ chanCap) (hr : sub.reader ≠ .leaving) :
    ∃ tr s', (∀ st ∈ tr, st = .sendDone id ∨ st = .recv id) ∧ tr.length ≤ 2 ∧ exec s tr = some s' ∧ (step s' .pubSend).isSome := by
  obtain rfl := findSub_id hf
  cases hrd : sub.reader with
  | leaving => exact absurd hrd hr
  | selecting =>
    obtain ⟨tr, s', h1, h2, h3, h4⟩ := recv_unblocks hp hf hq hrd
    exact ⟨tr, s', fun st h => .inr (h1 st h), Nat.le_succ_of_le h2, h3, h4⟩
  | sending m0 =>
    -- the client takes the message in flight; the handler is then back in its `select`
    let sub1 : Sub := { sub with reader := .selecting, delivered := sub.delivered ++ [m0] }
    have hf1 : findSub (setSub s.subs sub1) sub1.id = some sub1 := findSub_setSub_self hf
    obtain ⟨tr, s', h1, h2, h3, h4⟩ :=
      recv_unblocks (s := { s with subs := setSub s.subs sub1 }) (sub := sub1) hp hf1 hq rfl
    refine ⟨.sendDone sub.id :: tr, s', fun st h => ?_, Nat.succ_le_succ h2, ?_, h4⟩
    · exact (List.mem_cons.1 h).imp id (h1 st)
    · simp only [exec, step, hf, hrd]
      exact h3

/-- The channel capacity is respected in every reachable state (the hypothesis of `c20_reader_unblocks`). -/
theorem c20_queue_bounded (s : State) (hr : Reachable s) : ∀ x ∈ s.subs, x.queue.length ≤ chanCap := by
  obtain ⟨tr, h⟩ := hr
  exact exec_invariant (Q := fun _ => True) (fun _ => step_queue_le_cap) tr init s (fun _ _ => trivial) nofun h

/-! ## Isolation fails: the deadlock -/

def vA : Bytes := [1]
def vB : Bytes := [2]
def vC : Bytes := [3]

/-- Two unfiltered subscribers 0 and 1. Three VAAs are published; the client of subscriber 0 never completes
its first `Send` (it has stopped reading), subscriber 1 reads everything it is given. -/
def dTrace : List Step :=
  [ .subscribe 0 [], .subscribe 1 [],
    .pubStart vA (some (2, [9])) [0, 1], .pubSend, .pubSend, .pubEnd,
    .recv 0,                                   -- handler 0 is now inside resp.Send(vA) — and stays there
    .recv 1, .sendDone 1,
    .pubStart vB (some (2, [9])) [0, 1], .pubSend, .pubSend, .pubEnd,   -- vB sits in subscriber 0's channel
    .recv 1, .sendDone 1,
    .pubStart vC (some (2, [9])) [0, 1] ]      -- the send to subscriber 0 can not proceed

def dState : State :=
  { subs := [⟨0, [], [vB], .sending vA, []⟩, ⟨1, [], [], .selecting, [vA, vB]⟩],
    locked := true, pub := .sending vC [0, 1], log := [(0, vA), (1, vA), (0, vB), (1, vB)] }

/-- The publisher holds the mutex and waits on subscriber 0's full channel, whose handler is not receiving (the log clause is
what `c20_deadlock_witness` reports for subscriber 1). -/
def Stuck (s : State) : Prop :=
  s.locked = true ∧ s.pub = .sending vC [0, 1] ∧ (1, vC) ∉ s.log ∧
  ∃ sub, findSub s.subs 0 = some sub ∧ sub.queue = [vB] ∧ sub.reader ≠ .selecting

/-- In a stuck state nothing but a reader can move. -/
private theorem stuck_disabled {s : State} (hS : Stuck s) :
    step s .pubSend = none ∧ step s .pubEnd = none ∧
    (∀ id fs, step s (.subscribe id fs) = none) ∧ (∀ id, step s (.remove id) = none) ∧
    (∀ v dd o, step s (.pubStart v dd o) = none) := by
  obtain ⟨hl, hp, _, sub, hf, hq, _⟩ := hS
  exact ⟨by simp [step, hp, hf, hq, chanCap], by simp [step, hp], by simp [step, hl], by simp [step, hl],
    by simp [step, hl]⟩

private theorem stuck_step {s s' : State} {st : Step} (hne : st ≠ .sendDone 0) (hS : Stuck s)
    (h : step s st = some s') : Stuck s' := by
  obtain ⟨noSend, noEnd, noSubscribe, noRemove, noStart⟩ := stuck_disabled hS
  obtain ⟨hl, hp, hlog, sub, hf, hq, hr⟩ := hS
  -- a reader step of subscriber `id` replaces its subscription by `sub'`; subscriber 0 is untouched unless `id = 0`
  have reader : ∀ {id : SubId} {sb sub' : Sub}, findSub s.subs id = some sb → sub'.id = sb.id →
      (id = 0 → sub'.queue = [vB] ∧ sub'.reader ≠ .selecting) → Stuck { s with subs := setSub s.subs sub' } := by
    intro id sb sub' hf' hid h0
    have hid' : sub'.id = id := hid.trans (findSub_id hf')
    refine ⟨hl, hp, hlog, ?_⟩
    by_cases e : id = 0
    · exact ⟨sub', by rw [← e, ← hid', findSub_setSub_self (hid' ▸ hf')], h0 e⟩
    · exact ⟨sub, by rw [findSub_setSub_ne (fun h => e (hid' ▸ h.symm)), hf], hq, hr⟩
  cases trans_of_step h with
  | subscribe id fs => cases (noSubscribe id fs).symm.trans h
  | pubStart v d o => cases (noStart v d o).symm.trans h
  | pubSend => cases noSend.symm.trans h
  | pubEnd => cases noEnd.symm.trans h
  | remove => cases (noRemove _).symm.trans h
  | recv hf' hr' hq' =>
    refine reader hf' rfl fun e => ?_
    -- subscriber 0 is not in its `select`
    cases e
    cases hf.symm.trans hf'
    exact absurd hr' hr
  | sendDone hf' hr' =>
    refine reader hf' rfl fun e => ?_
    cases e
    exact absurd rfl hne
  | leave hf' hr' =>
    refine reader hf' rfl fun e => ?_
    cases e
    cases hf.symm.trans hf'
    exact ⟨hq, nofun⟩

/-- The isolation half of the statement, for the model: whichever subscriber `a` stops taking messages (stalls
for good or departs), the rest of the system can always reach a state in which the mutex is free again — i.e.
publishing, registering and removing are possible again. -/
def Isolation : Prop :=
  ∀ (s : State) (a : SubId), Reachable s →
    ∃ tr, (∀ st ∈ tr, st ≠ Step.sendDone a) ∧ ∃ s', exec s tr = some s' ∧ s'.locked = false

/-- **Deadlock witness.** The state after `dTrace` is reachable, and from it, along *every* continuation in
which subscriber 0's client does not take its message — it may stay connected, or disconnect (`leave 0`), the
others may do whatever they can — the system stays `Stuck`: `Publish` can neither send nor return, no
subscription can be registered, none removed (not even the departed subscriber 0's own), no new `Publish` can
start, and subscriber 1, who keeps reading, is never sent the third VAA. -/
theorem c20_deadlock_witness :
    (∃ d, exec init dTrace = some d ∧ Stuck d) ∧
    ∀ d, Stuck d → ∀ tr, (∀ st ∈ tr, st ≠ Step.sendDone 0) → ∀ s', exec d tr = some s' →
      Stuck s' ∧ step s' .pubSend = none ∧ step s' .pubEnd = none ∧
      (∀ id fs, step s' (.subscribe id fs) = none) ∧ (∀ id, step s' (.remove id) = none) ∧
      (∀ v dd o, step s' (.pubStart v dd o) = none) ∧ (1, vC) ∉ s'.log := by
  constructor
  · have hexec : exec init dTrace = some dState := by decide +kernel
    have hlog : (1, vC) ∉ dState.log := by decide +kernel
    have hsub : findSub dState.subs 0 = some ⟨0, [], [vB], .sending vA, []⟩ := by decide +kernel
    exact ⟨dState, hexec, rfl, rfl, hlog, _, hsub, rfl, nofun⟩
  · intro d hd tr hall s' h
    have hS : Stuck s' := exec_invariant stuck_step tr d s' hall hd h
    obtain ⟨h1, h2, h3, h4, h5⟩ := stuck_disabled hS
    exact ⟨hS, h1, h2, h3, h4, h5, hS.2.2.1⟩

/-- **The pinned code does not have it.** -/
theorem c20_isolation_fails : ¬ Isolation := by
  intro hI
  obtain ⟨⟨d, hd, hS⟩, hstay⟩ := c20_deadlock_witness
  obtain ⟨tr, hno, s', he, hfree⟩ := hI d 0 ⟨dTrace, hd⟩
  have hheld : s'.locked = true := (hstay d hS tr hno s' he).1.1
  cases hfree.symm.trans hheld

end Whv.C20
