/-!
# Byte strings, big-endian integers, hex and decimal rendering (core-only, executable)
-/
namespace Whv

abbrev Bytes := List UInt8

/-- Big-endian encoding of `n` in exactly `w` bytes (`n` is reduced modulo `256^w`, like a Go
narrowing conversion followed by `binary.Write(BigEndian)`). -/
def be : Nat → Nat → Bytes
  | 0, _ => []
  | w + 1, n => be w (n / 256) ++ [UInt8.ofNat (n % 256)]

/-- Big-endian decoding. -/
def unbe (bs : Bytes) : Nat := bs.foldl (fun a b => a * 256 + b.toNat) 0

@[simp] theorem be_length (w n : Nat) : (be w n).length = w := by
  induction w generalizing n with
  | zero => rfl
  | succ w ih => rw [be, List.length_append, ih, List.length_singleton]

theorem unbe_append_singleton (bs : Bytes) (b : UInt8) : unbe (bs ++ [b]) = unbe bs * 256 + b.toNat := by
  rw [unbe, List.foldl_append]; rfl

@[simp] theorem unbe_nil : unbe [] = 0 := rfl

theorem unbe_zeros_append (k : Nat) (m : Bytes) : unbe (List.replicate k 0 ++ m) = unbe m := by
  induction k with
  | zero => rfl
  -- a leading zero byte leaves the accumulator `0 * 256 + 0`, which reduces to `0`: `ih` applies as it stands
  | succ k ih => rwa [List.replicate_succ, List.cons_append, unbe, List.foldl_cons]

theorem unbe_be (w n : Nat) : unbe (be w n) = n % 256 ^ w := by
  induction w generalizing n with
  | zero => rw [Nat.pow_zero, Nat.mod_one]; rfl
  | succ w ih =>
    have h : (UInt8.ofNat (n % 256)).toNat = n % 256 := UInt8.toNat_ofNat'.trans (Nat.mod_mod _ _)
    -- split off the last base-256 digit: `n % (256 * m) = n % 256 + 256 * (n / 256 % m)` (`Nat.mod_mul`)
    rw [be, unbe_append_singleton, ih, h, Nat.pow_succ, Nat.mul_comm (256 ^ w), Nat.mod_mul, Nat.mul_comm, Nat.add_comm]

theorem unbe_be_of_lt {w n : Nat} (h : n < 256 ^ w) : unbe (be w n) = n := by
  rw [unbe_be, Nat.mod_eq_of_lt h]

theorem snoc_induction {α : Type} {p : List α → Prop} (hnil : p [])
    (hsnoc : ∀ l a, p l → p (l ++ [a])) : ∀ l, p l := by
  intro l
  have h : ∀ r : List α, p r.reverse := by
    intro r
    induction r with
    | nil => exact hnil
    | cons a r ih => rw [List.reverse_cons]; exact hsnoc _ a ih
  rw [← l.reverse_reverse]; exact h _

theorem unbe_lt (bs : Bytes) : unbe bs < 256 ^ bs.length := by
  induction bs using snoc_induction with
  | hnil => exact Nat.one_pos
  | hsnoc bs b ih =>
    rw [unbe_append_singleton, List.length_append, List.length_singleton, Nat.pow_succ]
    calc unbe bs * 256 + b.toNat < unbe bs * 256 + 256 := Nat.add_lt_add_left b.toNat_lt _
      _ = (unbe bs + 1) * 256 := (Nat.succ_mul ..).symm
      _ ≤ 256 ^ bs.length * 256 := Nat.mul_le_mul_right _ ih

theorem be_unbe (bs : Bytes) : be bs.length (unbe bs) = bs := by
  induction bs using snoc_induction with
  | hnil => rfl
  | hsnoc bs b ih =>
    have hb : b.toNat < 256 := b.toNat_lt
    -- `(256 * u + b) / 256 = u` and `(256 * u + b) % 256 = b`: the last digit comes off again
    rw [List.length_append, List.length_singleton, be, unbe_append_singleton, Nat.mul_comm, Nat.mul_add_div (by omega),
      Nat.mul_add_mod, Nat.div_eq_of_lt hb, Nat.mod_eq_of_lt hb, Nat.add_zero, ih, UInt8.ofNat_toNat]

theorem be_eq_iff (w a b : Nat) : be w a = be w b ↔ a % 256 ^ w = b % 256 ^ w := by
  constructor
  · intro h; rw [← unbe_be, ← unbe_be, h]
  · intro h
    have ha := be_unbe (be w a)
    have hb := be_unbe (be w b)
    rw [be_length, unbe_be] at ha hb
    rw [← ha, ← hb, h]

theorem be_inj_of_lt {w a b : Nat} (ha : a < 256 ^ w) (hb : b < 256 ^ w) (h : be w a = be w b) : a = b := by
  have := (be_eq_iff w a b).1 h
  rwa [Nat.mod_eq_of_lt ha, Nat.mod_eq_of_lt hb] at this

/-! ## splitting -/

/-- `bytes.Reader`-style fixed read: `none` when fewer than `k` bytes remain. -/
def takeN (k : Nat) (bs : Bytes) : Option (Bytes × Bytes) :=
  if bs.length < k then none else some (bs.take k, bs.drop k)

theorem takeN_append_of_length {k : Nat} {a b : Bytes} (h : a.length = k) : takeN k (a ++ b) = some (a, b) := by
  subst h
  simp [takeN]

theorem takeN_some {k : Nat} {bs a b : Bytes} (h : takeN k bs = some (a, b)) : bs = a ++ b ∧ a.length = k := by
  rw [takeN] at h
  split at h
  · cases h
  · cases h; exact ⟨(List.take_append_drop k bs).symm, List.length_take_of_le (by omega)⟩

theorem takeN_be (w n : Nat) (r : Bytes) : takeN w (be w n ++ r) = some (be w n, r) :=
  takeN_append_of_length (be_length w n)

/-- A successful `k`-byte read taken as an integer field: the input is that integer's encoding, then the rest. -/
theorem takeN_some_be {k : Nat} {bs a r : Bytes} (h : takeN k bs = some (a, r)) :
    bs = be k (unbe a) ++ r ∧ unbe a < 256 ^ k := by
  obtain ⟨rfl, rfl⟩ := takeN_some h
  exact ⟨by rw [be_unbe], unbe_lt a⟩

/-! ## hex -/

def hexDigit (n : Nat) : Char :=
  if n < 10 then Char.ofNat (48 + n) else Char.ofNat (87 + n)

def hexOfByte (b : UInt8) : List Char := [hexDigit (b.toNat / 16), hexDigit (b.toNat % 16)]

def hexChars (bs : Bytes) : List Char := bs.flatMap hexOfByte

def toHex (bs : Bytes) : String := String.ofList (hexChars bs)

def hexVal (c : Char) : Option Nat :=
  if '0' ≤ c ∧ c ≤ '9' then some (c.toNat - 48)
  else if 'a' ≤ c ∧ c ≤ 'f' then some (c.toNat - 87)
  else if 'A' ≤ c ∧ c ≤ 'F' then some (c.toNat - 55)
  else none

def unhexChars : List Char → Option Bytes
  | [] => some []
  | [_] => none
  | a :: b :: rest =>
    match hexVal a, hexVal b, unhexChars rest with
    | some x, some y, some r => some (UInt8.ofNat (x * 16 + y) :: r)
    | _, _, _ => none

def ofHex (s : String) : Option Bytes := unhexChars s.toList

/-! ## decimal -/

def decChars (n : Nat) : List Char := (Nat.repr n).toList

end Whv
